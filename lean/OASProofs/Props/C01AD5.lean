import OASProofs.Props.C01AD3

/-!
# C01 (continued)  Exactness of the derivative oracle: fuel / point-mass / thrust loads, moment coefficient, KS
-/
set_option linter.unusedSectionVars false
set_option linter.unusedSimpArgs false
set_option linter.unusedTactic false
set_option linter.unreachableTactic false
namespace OAS
namespace C01AD
open AD

variable {t : ℝ}

/-- `FuelLoads`: distributed fuel weight and end moments, w.r.t. nodes, fuel volumes, fuel mass and load factor -/
theorem fuelLoads_exact (ny : ℕ) (sym : Bool) (reserve : ℝ) {n : Pts (Dual ℝ)} {fn : ℝ → Pts ℝ} {vols : ℕ → Dual ℝ}
    {fv : ℕ → ℝ → ℝ} {fm lf : Dual ℝ} {ffm flf : ℝ → ℝ} (hn : ∀ j, TracksV (n j) (fun s => fn s j) t)
    (hv : ∀ e, Tracks (vols e) (fv e) t) (hfm : Tracks fm ffm t) (hlf : Tracks lf flf t)
    (hxy : ∀ e, 0 < (elemDelta (fn t) e).x * (elemDelta (fn t) e).x + (elemDelta (fn t) e).y * (elemDelta (fn t) e).y)
    (hL : ∀ e, 0 < V3.normSq (elemDelta (fn t) e)) (hs : sumTo (ny - 1) (fun e => fv e t) ≠ 0) (j : ℕ) :
    TracksL (fuelLoads ny sym n vols fm (⟨reserve, 0⟩ : Dual ℝ) lf j)
      (fun s => fuelLoads ny sym (fn s) (fun k => fv k s) (ffm s) reserve (flf s) j) t := by
  have h2 : ((2 : ℕ) : ℝ) ≠ 0 := by norm_num
  have h12 : ((12 : ℕ) : ℝ) ≠ 0 := by norm_num
  have hLen := fun e => elemLength_exact hn e (hL e)
  have hLn := fun e => V3.norm_ne_zero (hL e)
  have hfw : Tracks (fuelWeight sym fm (⟨reserve, 0⟩ : Dual ℝ) lf) (fun s => fuelWeight sym (ffm s) reserve (flf s)) t := by
    cases sym <;> simp only [fuelWeight, gravConstant, Bool.false_eq_true, if_false, if_true] <;> track
  simp only [fuelLoads]
  refine distributedLoads_exact ny (fun e => ?_) (fun e => ?_) (fun e => ?_) j
  · track
  all_goals simp only [elemDelta]; track <;> first | exact hxy e | exact hLn e

/-- `ComputePointMassLoads`, w.r.t. nodes, point-mass locations, masses and load factor -/
theorem pointMassLoads_exact (ny np : ℕ) {n l : Pts (Dual ℝ)} {fn fl : ℝ → Pts ℝ} {ms : ℕ → Dual ℝ} {fms : ℕ → ℝ → ℝ}
    {lf : Dual ℝ} {flf : ℝ → ℝ} (hn : ∀ j, TracksV (n j) (fun s => fn s j) t) (hl : ∀ p, TracksV (l p) (fun s => fl s p) t)
    (hms : ∀ p, Tracks (ms p) (fms p) t) (hlf : Tracks lf flf t)
    (hd : ∀ p k, pow10 ((fl t p).y - (fn t k).y) + dec 1 10000000000 ≠ 0)
    (hs : ∀ p, sumTo ny (invDist10 (fn t) (fl t p)) ≠ 0) (j : ℕ) :
    TracksL (pointMassLoads ny np n l ms lf j) (fun s => pointMassLoads ny np (fn s) (fl s) (fun p => fms p s) (flf s) j) t := by
  have hw : ∀ p k, Tracks (nodalWeighting ny n (l p) k) (fun s => nodalWeighting ny (fn s) (fl s p) k) t :=
    fun p k => nodalWeighting_exact ny hn (hl p) k (hd p) (hs p)
  have hF : ∀ p k, TracksV
      (⟨nodalWeighting ny n (l p) k * 0 * gravConstant * lf * ms p, nodalWeighting ny n (l p) k * 0 * gravConstant * lf * ms p,
        nodalWeighting ny n (l p) k * (-1) * gravConstant * lf * ms p⟩ : V3 (Dual ℝ))
      (fun s => (⟨nodalWeighting ny (fn s) (fl s p) k * 0 * gravConstant * flf s * fms p s,
        nodalWeighting ny (fn s) (fl s p) k * 0 * gravConstant * flf s * fms p s,
        nodalWeighting ny (fn s) (fl s p) k * (-1) * gravConstant * flf s * fms p s⟩ : V3 ℝ)) t := by
    intro p k
    simp only [gravConstant]; track
  exact pointLoads_exact ny np hn hl hF j

/-- `ComputeThrustLoads`, w.r.t. nodes, engine locations and thrusts -/
theorem thrustLoads_exact (ny np : ℕ) {n l : Pts (Dual ℝ)} {fn fl : ℝ → Pts ℝ} {th : ℕ → Dual ℝ} {fth : ℕ → ℝ → ℝ}
    (hn : ∀ j, TracksV (n j) (fun s => fn s j) t) (hl : ∀ p, TracksV (l p) (fun s => fl s p) t)
    (hth : ∀ p, Tracks (th p) (fth p) t)
    (hd : ∀ p k, pow10 ((fl t p).y - (fn t k).y) + dec 1 10000000000 ≠ 0)
    (hs : ∀ p, sumTo ny (invDist10 (fn t) (fl t p)) ≠ 0) (j : ℕ) :
    TracksL (thrustLoads ny np n l th j) (fun s => thrustLoads ny np (fn s) (fl s) (fun p => fth p s) j) t := by
  have hw : ∀ p k, Tracks (nodalWeighting ny n (l p) k) (fun s => nodalWeighting ny (fn s) (fl s p) k) t :=
    fun p k => nodalWeighting_exact ny hn (hl p) k (hd p) (hs p)
  have hF : ∀ p k, TracksV
      (⟨nodalWeighting ny n (l p) k * (-1) * th p, nodalWeighting ny n (l p) k * 0 * th p, nodalWeighting ny n (l p) k * 0 * th p⟩ : V3 (Dual ℝ))
      (fun s => (⟨nodalWeighting ny (fn s) (fl s p) k * (-1) * fth p s, nodalWeighting ny (fn s) (fl s p) k * 0 * fth p s,
        nodalWeighting ny (fn s) (fl s p) k * 0 * fth p s⟩ : V3 ℝ)) t := by
    intro p k
    track
  exact pointLoads_exact ny np hn hl hF j

/-- the maximum of `n+1` tracked values, when it is attained strictly at every comparison of the recursion (the generic
situation: no ties) -/
theorem maxUpTo_exact : ∀ (n : ℕ) {A : ℕ → Dual ℝ} {F : ℕ → ℝ → ℝ}, (∀ k, Tracks (A k) (F k) t) →
    (∀ k, k < n → maxUpTo k (fun i => F i t) ≠ F (k + 1) t) →
    Tracks (maxUpTo n A) (fun s => maxUpTo n (fun i => F i s)) t
  | 0, _, _, hA, _ => hA 0
  | n + 1, A, F, hA, hne => by
    have ih := maxUpTo_exact n hA (fun k hk => hne k (by omega))
    have hn := hne n (by omega)
    simp only [maxUpTo]
    rcases lt_or_gt_of_ne hn with hlt | hgt
    · exact Tracks.ite_lt_pos ih (hA (n + 1)) hlt (hA (n + 1))
    · exact Tracks.ite_lt_neg ih (hA (n + 1)) hgt ih

/-- the Kreisselmeier–Steinhauser aggregate `max + 1/ρ · log Σ exp(ρ (g i − max))` of `n+1` tracked values for a constant `ρ ≠ 0`,
away from ties in the running maximum (shared by `FailureKS` and the height envelopes of the wingbox section) -/
theorem ks_exact (n : ℕ) {r : Dual ℝ} {ρ : ℝ} (hr : Tracks r (fun _ => ρ) t) (hρ : ρ ≠ 0) {g : ℕ → Dual ℝ} {fg : ℕ → ℝ → ℝ}
    (hg : ∀ k, Tracks (g k) (fg k) t) (hne : ∀ k, k < n → maxUpTo k (fun i => fg i t) ≠ fg (k + 1) t) :
    Tracks (maxUpTo n g + 1 / r * Elem.log (sumTo (n + 1) fun i => Elem.exp (r * (g i - maxUpTo n g))))
      (fun s => maxUpTo n (fun i => fg i s)
        + 1 / ρ * Elem.log (sumTo (n + 1) fun i => Elem.exp (ρ * (fg i s - maxUpTo n fun i => fg i s)))) t := by
  have hmax := maxUpTo_exact n hg hne
  have hpos : sumTo (n + 1) (fun i => Elem.exp (ρ * (fg i t - maxUpTo n fun i => fg i t))) ≠ 0 := by
    rw [sumTo_eq_sum]
    exact (Finset.sum_pos (fun i _ => Real.exp_pos _) ⟨0, by simp⟩).ne'
  track

/-- `FailureKS`: the aggregated failure, w.r.t. every von Mises stress, when the largest stress ratio is attained without
ties in the running maximum -/
theorem failureKS_exact (n : ℕ) (sigma rho : ℝ) {vm : ℕ → Dual ℝ} {fvm : ℕ → ℝ → ℝ} (hvm : ∀ k, Tracks (vm k) (fvm k) t)
    (hs : sigma ≠ 0) (hr : rho ≠ 0)
    (hne : ∀ k, k < n → maxUpTo k (fun i => fvm i t / sigma - 1) ≠ fvm (k + 1) t / sigma - 1) :
    Tracks (failureKS n (⟨sigma, 0⟩ : Dual ℝ) (⟨rho, 0⟩ : Dual ℝ) vm) (fun s => failureKS n sigma rho (fun k => fvm k s)) t :=
  ks_exact n (.const rho) hr (fun k => ((hvm k).div (.const sigma) hs).sub .one) hne

/-! ### MomentCoefficient -/

open MomentCoefficient in
/-- tracking of one surface's inputs to `MomentCoefficient` -/
structure TracksMC (a : MomentCoefficient.Surf (Dual ℝ)) (f : ℝ → MomentCoefficient.Surf ℝ) (t : ℝ) : Prop where
  nx : ∀ s, (f s).nx = a.nx
  ny : ∀ s, (f s).ny = a.ny
  sym : ∀ s, (f s).sym = a.sym
  bPts : ∀ i j, TracksV (a.bPts i j) (fun s => (f s).bPts i j) t
  widths : ∀ j, Tracks (a.widths j) (fun s => (f s).widths j) t
  chords : ∀ j, Tracks (a.chords j) (fun s => (f s).chords j) t
  sRef : Tracks a.sRef (fun s => (f s).sRef) t
  F : ∀ i j, TracksV (a.F i j) (fun s => (f s).F i j) t

open MomentCoefficient in
/-- mean aerodynamic chord -/
theorem mac_exact {a : MomentCoefficient.Surf (Dual ℝ)} {f : ℝ → MomentCoefficient.Surf ℝ} (h : TracksMC a f t)
    (h0 : (f t).sRef ≠ 0) : Tracks (mac a) (fun s => mac (f s)) t := by
  have hw := h.widths; have hc := h.chords; have hS := h.sRef
  simp only [mac, h.ny, h.sym]
  cases a.sym <;> simp only [Bool.false_eq_true, if_false, if_true] <;> track

open MomentCoefficient in
/-- spanwise moment distribution of one surface about the reference point -/
theorem momentDist_exact {a : MomentCoefficient.Surf (Dual ℝ)} {f : ℝ → MomentCoefficient.Surf ℝ} (h : TracksMC a f t)
    {cg : V3 (Dual ℝ)} {fcg : ℝ → V3 ℝ} (hcg : TracksV cg fcg t) (j : ℕ) :
    TracksV (momentDist a cg j) (fun s => momentDist (f s) (fcg s) j) t := by
  have hb := h.bPts; have hF := h.F
  simp only [momentDist, h.nx, h.sym]
  cases a.sym <;> simp only [Bool.false_eq_true, if_false, if_true] <;> track

open MomentCoefficient in
/-- moment of one surface about the reference point (sum over the span) -/
theorem surfMoment_exact {a : MomentCoefficient.Surf (Dual ℝ)} {f : ℝ → MomentCoefficient.Surf ℝ} (h : TracksMC a f t)
    {cg : V3 (Dual ℝ)} {fcg : ℝ → V3 ℝ} (hcg : TracksV cg fcg t) :
    TracksV (surfMoment a cg) (fun s => surfMoment (f s) (fcg s)) t := by
  simp only [surfMoment, h.ny]
  exact TracksV.sumTo _ _ _ fun j _ => momentDist_exact h hcg j

end C01AD
end OAS
