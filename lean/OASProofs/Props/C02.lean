import OASProofs.Props.C10
import OASProofs.Props.C19
import Mathlib.LinearAlgebra.Matrix.NonsingularInverse

/-!
# C02  Coupled total derivatives: forward = reverse, independent of the (exact) linear solver

What is proved here is the linear-algebra content the code relies on; the assembly of totals by OpenMDAO
is outside the model and is tied by the oracle of every run (fwd vs rev vs finite differences, three
linear solvers, live problems whose stiffness changes between linearisations).
-/
set_option linter.unusedSectionVars false
namespace OAS
namespace C02
open FEM Finset Matrix

/-- the element matrix that enters the global stiffness (`Tᵀ (Pᵀ K_loc P) T`) is symmetric -/
theorem c02_element_chain_symmetric (E G : ℝ) (nodes : Pts ℝ) (A Iy Iz J : ℕ → ℝ) (e : ℕ) :
    C10.IsSymm (elementK E G nodes A Iy Iz J e) :=
  C10.transformed_symmetric _ (C10.permuted_symmetric (C10.c10_element_symmetric _ _ _ _ _ _ _))

/-- **The matrix factorised by `FEM.solve_nonlinear` is symmetric for every number of nodes** (element
scatter plus the `1e9` clamp rows and columns), so the reverse-mode solve of `FEM.solve_linear`, which
re-uses the *untransposed* factorisation, solves the transposed system. -/
theorem c02_fem_K_symmetric (ny idx : ℕ) (E G : ℝ) (nodes : Pts ℝ) (A Iy Iz J : ℕ → ℝ) (r c : ℕ) :
    assembleK ny idx (elementK E G nodes A Iy Iz J) r c = assembleK ny idx (elementK E G nodes A Iy Iz J) c r :=
  C10.c10_assembled_symmetric ny idx (c02_element_chain_symmetric E G nodes A Iy Iz J) r c

variable {n : Type} [Fintype n] [DecidableEq n]

/-- for a symmetric invertible matrix the inverse is symmetric: solving with `K` *is* solving with `Kᵀ` -/
theorem c02_symmetric_inverse (K : Matrix n n ℝ) (hs : Kᵀ = K) : (K⁻¹)ᵀ = K⁻¹ := by
  rw [Matrix.transpose_nonsing_inv, hs]

/-- **Forward and reverse accumulation give the same total derivative**: with state Jacobian `A`,
`gᵀ (A⁻¹ b) = ((Aᵀ)⁻¹ g)ᵀ b` — one forward solve per input or one adjoint solve per output. -/
theorem c02_ude_fwd_eq_rev (A : Matrix n n ℝ) (g b : n → ℝ) :
    g ⬝ᵥ (A⁻¹ *ᵥ b) = ((Aᵀ)⁻¹ *ᵥ g) ⬝ᵥ b := by
  rw [← Matrix.transpose_nonsing_inv, Matrix.dotProduct_mulVec, Matrix.mulVec_transpose]

/-- the `trans = 0 / 1` solves of `SolveMatrix` form such a forward/adjoint pair -/
theorem c02_solveMatrix_adjoint (A : Matrix n n ℝ) (g b : n → ℝ) :
    g ⬝ᵥ (A⁻¹ *ᵥ b) = b ⬝ᵥ ((A⁻¹)ᵀ *ᵥ g) := by
  rw [Matrix.dotProduct_mulVec, Matrix.mulVec_transpose, dotProduct_comm]

/-- **Independence of the linear solver**: an invertible system has exactly one solution, so every exact
solver (direct, block Gauss–Seidel or Krylov at convergence) returns the same derivative -/
theorem c02_solver_independent (A : Matrix n n ℝ) (hA : IsUnit A.det) (x y b : n → ℝ)
    (hx : A *ᵥ x = b) (hy : A *ᵥ y = b) : x = y := by
  have h : A *ᵥ x = A *ᵥ y := by rw [hx, hy]
  have := congrArg (fun v => A⁻¹ *ᵥ v) h
  simpa [Matrix.mulVec_mulVec, Matrix.nonsing_inv_mul A hA] using this

end C02
end OAS
