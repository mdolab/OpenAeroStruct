import OASProofs.Lemmas.Basic
import OASProofs.Lemmas.Dec
import OASProofs.Generated.Formulas

/-!
# Translated formulas = model

`OASProofs/Generated/Formulas.lean` is produced on every run by the expression translator of `harness/generate.py`
from the *current* source of the `compute()` methods (one definition per assignment statement).  The theorems below
show that the model definitions the property theorems are about are built from exactly those expressions – so a
change of any of these formulas in the code breaks a proof obligation here, independently of the sampled
correspondence.  Proved over ℝ by ring normalisation: a harmless re-association or re-ordering in the source keeps
them true.
-/
set_option linter.unusedSectionVars false
set_option linter.unusedSimpArgs false
namespace OAS
namespace Formulas
open Generated

/-! ### C18: skin friction, form factor, wave drag -/

theorem visc_cfTurb (Re M : ℝ) : F.visc_cdturb_total Re M = ViscousDrag.cfTurb Re M := by
  simp only [F.visc_cdturb_total, ViscousDrag.cfTurb, ViscousDrag.log10, dec_10_10]

theorem visc_cfLam (Rec k : ℝ) : F.visc_cdlam_tr Rec k = ViscousDrag.cfLam (Rec * k) := by
  simp only [F.visc_cdlam_tr, ViscousDrag.cfLam]

theorem visc_cfTurb_tr (Rec k M : ℝ) : F.visc_cdturb_tr Rec k M = ViscousDrag.cfTurb (Rec * k) M :=
  visc_cfTurb (Rec * k) M

/-- the transition branch (`0 < k_lam < 1`) of the section skin-friction coefficient is the code's `cd` line applied
to the code's three skin-friction lines -/
theorem visc_cd_transition (k Rec M : ℝ) (h0 : 0 < k) (h1 : k < 1) :
    F.visc_cd (F.visc_cdlam_tr Rec k) (F.visc_cdturb_tr Rec k M) k (F.visc_cdturb_total Rec M) = ViscousDrag.cd k Rec M := by
  rw [visc_cfLam, visc_cfTurb_tr, visc_cfTurb]
  simp only [F.visc_cd, ViscousDrag.cd, h0, h1, or_true, if_true]

theorem visc_formFactor (cmaxt M toc cs : ℝ) :
    F.visc_FF (F.visc_k_FF M toc cmaxt) cs = ViscousDrag.formFactor cmaxt M toc cs := by
  simp only [F.visc_FF, F.visc_k_FF, ViscousDrag.formFactor, dec_10_10]

/-- the summand of the spanwise drag sum: `d_over_q * widths * FF` with the code's `chords`, `Re_c` lines -/
theorem visc_summand (k cmaxt re M w lsp l0 l1 toc : ℝ) :
    F.visc_d_over_q (ViscousDrag.cd k (F.visc_Re_c re (F.visc_chords l1 l0)) M) (F.visc_chords l1 l0) * w
        * ViscousDrag.formFactor cmaxt M toc (w / lsp)
      = ((2 : ℕ) : ℝ) * ViscousDrag.cd k (re * ((l1 + l0) / ((2 : ℕ) : ℝ))) M * ((l1 + l0) / ((2 : ℕ) : ℝ)) * w
          * ViscousDrag.formFactor cmaxt M toc (w / lsp) := by
  simp only [F.visc_d_over_q, F.visc_Re_c, F.visc_chords, dec_20_10]

theorem wave_panelArea (c w : ℕ → ℝ) (j : ℕ) :
    F.wave_panel_areas (F.wave_panel_mid_chords (c j) (c (j + 1))) (w j) = WaveDrag.panelArea c w j := by
  simp only [F.wave_panel_areas, F.wave_panel_mid_chords, WaveDrag.panelArea, dec_20_10]

theorem wave_mcrit (ny : ℕ) (ka CL : ℝ) (toc w l c : ℕ → ℝ) :
    F.wave_Mcrit (F.wave_MDD ka
        (sumTo (ny - 1) (fun j => w j / l j * WaveDrag.panelArea c w j) / sumTo (ny - 1) (WaveDrag.panelArea c w))
        (sumTo (ny - 1) (fun j => toc j * WaveDrag.panelArea c w j) / sumTo (ny - 1) (WaveDrag.panelArea c w)) CL)
      = WaveDrag.mcrit ny ka CL toc w l c := by
  simp only [F.wave_Mcrit, F.wave_MDD, WaveDrag.mcrit, show (dec 800 10 : ℝ) = ((80 : ℕ) : ℝ) from dec_tenfold 80,
    dec_10_10, show (dec 30 10 : ℝ) = ((3 : ℕ) : ℝ) from dec_tenfold 3]

theorem wave_cdw_above (ny : ℕ) (ka M CL : ℝ) (toc w l c : ℕ → ℝ) (h : WaveDrag.mcrit ny ka CL toc w l c < M) :
    F.wave_CDw M (WaveDrag.mcrit ny ka CL toc w l c) = WaveDrag.cdw ny true false ka M CL toc w l c := by
  simp only [F.wave_CDw, WaveDrag.cdw, h, if_true, Bool.false_eq_true, if_false]

end Formulas
end OAS
