import OASProofs.Lemmas.Basic
import OASProofs.Lemmas.Real

/-!
# C11  Load and displacement transfer conserve force and moment; rigid motion is exact

Model definitions: `OASModel/Transfer.lean` (transliteration of `load_transfer.py`,
`displacement_transfer.py`, `compute_transformation_matrix.py`, `mesh_point_forces.py`,
`compute_nodes.py`).  All theorems hold for every mesh size `nx, ny ≥ 1`... (stated with
`ny = m + 1`, `nx = n + 1`), every mesh, every force field and every spar location.
-/
set_option linter.unusedSectionVars false
set_option linter.unusedSimpArgs false
namespace OAS
open Finset

namespace C11
variable {K : Type} [Field K] [CharZero K]

/-- total of the panel forces `Σ_i Σ_j F[i,j]` (component `c` selected by a projection) -/
def panelForceTotal (n m : ℕ) (F : ℕ → ℕ → V3 K) : V3 K :=
  V3.sumTo m (fun j => V3.sumTo n (fun i => F i j))

/-- total of the nodal forces -/
def nodalForceTotal (n m : ℕ) (F : ℕ → ℕ → V3 K) : V3 K :=
  V3.sumTo (m + 1) (fun j => LoadTransfer.force (n + 1) (m + 1) F j)

/-- **Force conservation** (`nx = n+1`, `ny = m+1`): the nodal forces produced by
`LoadTransfer` sum to the sum of the panel forces. -/
theorem c11_force_total (n m : ℕ) (F : ℕ → ℕ → V3 K) :
    nodalForceTotal n m F = panelForceTotal n m F := by
  have h2 : (dec 1 2 : K) + dec 1 2 = 1 := by
    simp only [dec_def]; push_cast; norm_num
  refine V3.ext_linear fun p hp => ?_
  simp only [nodalForceTotal, panelForceTotal, LoadTransfer.force, LoadTransfer.secSum, hp.map_sumTo, hp.add, apply_ite p,
    hp.zero, hp.smul, Nat.add_sub_cancel, sum_scatter, ← add_mul, h2, one_mul]

/-- moment about the origin of the nodal loads: `Σ_j (M_j + s_j × F_j)` -/
def nodalMomentTotal (n m : ℕ) (w1 w2 : K) (mesh : Mesh K) (F : ℕ → ℕ → V3 K) : V3 K :=
  V3.sumTo (m + 1) (fun j =>
    LoadTransfer.moment (n + 1) (m + 1) w1 w2 mesh F j
      + V3.cross (LoadTransfer.sPt (n + 1) w2 mesh j) (LoadTransfer.force (n + 1) (m + 1) F j))

/-- moment about the origin of the panel forces acting at the panels' aerodynamic centres -/
def panelMomentTotal (n m : ℕ) (w1 : K) (mesh : Mesh K) (F : ℕ → ℕ → V3 K) : V3 K :=
  V3.sumTo m (fun j => V3.sumTo n (fun i => V3.cross (LoadTransfer.aPt w1 mesh i j) (F i j)))

/-- **Moment conservation**: the nodal forces and moments have the same total moment about
the origin as the panel forces acting at their aerodynamic centres on the (deformed) mesh,
for every spar location `w2` and every chordwise location `w1` of the aerodynamic centre.
Together with `c11_force_total` this gives equality of the moment about *any* point. -/
theorem c11_moment_total (n m : ℕ) (w1 w2 : K) (mesh : Mesh K) (F : ℕ → ℕ → V3 K) :
    nodalMomentTotal n m w1 w2 mesh F = panelMomentTotal n m w1 mesh F := by
  have h2 : (dec 1 2 : K) = 1 / 2 := by simp only [dec_def]; push_cast; norm_num
  refine V3.ext_linear fun p hp => ?_
  simp only [nodalMomentTotal, panelMomentTotal, hp.map_sumTo]
  rw [Finset.sum_congr rfl fun j _ => hp.add _ _, Finset.sum_add_distrib]
  simp only [LoadTransfer.moment, LoadTransfer.force, Nat.add_sub_cancel]
  -- node sums to element sums (the force part through the moment about the node), then element by element
  rw [sum_linear_scatter m (fun _ => p) (fun _ => hp),
    sum_linear_scatter m (fun j v => p (V3.cross (LoadTransfer.sPt (n + 1) w2 mesh j) v)) (fun j => hp.cross_left _),
    ← Finset.sum_add_distrib]
  refine Finset.sum_congr rfl (fun j _ => ?_)
  simp only [LoadTransfer.momentIn, LoadTransfer.momentOut, LoadTransfer.secSum, hp.map_sumTo, (hp.cross_left _).smul,
    (hp.cross_left _).map_sumTo, V3.cross_sub_left, hp.sub, Nat.add_sub_cancel, h2, Finset.mul_sum, ← Finset.sum_add_distrib]
  exact Finset.sum_congr rfl (fun i _ => by ring)

/-! ### mesh-node forces exported to external solvers (`MeshPointForces`) -/

/-- the mesh-node forces seen through linear functionals `φ i j` attached to the mesh nodes (a coordinate, or a coordinate of
the moment about the node): every panel force is seen from its four corners, with weight `le` at the two leading and `te` at the
two trailing ones -/
theorem sum_linear_meshPointForces (n m : ℕ) (le te : K) (F : ℕ → ℕ → V3 K) (φ : ℕ → ℕ → V3 K → K)
    (hφ : ∀ i j, V3.Linear (φ i j)) :
    ∑ j ∈ range (m + 1), ∑ i ∈ range (n + 1), φ i j (meshPointForces (n + 1) (m + 1) le te F i j)
      = ∑ j ∈ range m, ∑ i ∈ range n, (le * φ i j (F i j) + te * φ (i + 1) j (F i j) + te * φ (i + 1) (j + 1) (F i j)
          + le * φ i (j + 1) (F i j)) := by
  simp only [meshPointForces, (hφ _ _).add, apply_ite (φ _ _), (hφ _ _).zero, (hφ _ _).smul, Nat.add_sub_cancel, zero_add,
    ite_and, Finset.sum_add_distrib]
  simp only [sum_ite_lt_last, sum_ite_one_le, Nat.add_sub_cancel, Finset.sum_ite_irrel, Finset.sum_const_zero]

/-- total of the mesh-node forces equals `(2 le + 2 te) ·` total panel force; with the code's
weights `le = 0.375`, `te = 0.125` the factor is 1 (`c11_mesh_point_force_total`). -/
theorem c11_mesh_point_force_total_gen (n m : ℕ) (le te : K) (F : ℕ → ℕ → V3 K) :
    V3.sumTo (m + 1) (fun j => V3.sumTo (n + 1) (fun i => meshPointForces (n + 1) (m + 1) le te F i j))
      = V3.smul (2 * le + 2 * te) (panelForceTotal n m F) := by
  refine V3.ext_linear fun p hp => ?_
  simp only [panelForceTotal, hp.map_sumTo, hp.smul, sum_linear_meshPointForces n m le te F (fun _ _ => p) (fun _ _ => hp),
    Finset.mul_sum]
  exact Finset.sum_congr rfl (fun j _ => Finset.sum_congr rfl (fun i _ => by ring))

/-- with the weights used by the code the mesh-node forces sum to the panel forces -/
theorem c11_mesh_point_force_total (n m : ℕ) (F : ℕ → ℕ → V3 K) :
    V3.sumTo (m + 1) (fun j => V3.sumTo (n + 1)
        (fun i => meshPointForces (n + 1) (m + 1) (dec 375 1000) (dec 125 1000) F i j))
      = panelForceTotal n m F := by
  rw [c11_mesh_point_force_total_gen]
  have : (2 * dec 375 1000 + 2 * dec 125 1000 : K) = 1 := by
    simp only [dec_def]; push_cast; norm_num
  rw [this]
  ext <;> simp

/-- total moment about the origin of the mesh-node forces (acting at the mesh nodes) equals the
total moment of the panel forces acting at the quarter-chord mid-span points `aPt (w1 = 1/4)`. -/
theorem c11_mesh_point_moment_total (n m : ℕ) (mesh : Mesh K) (F : ℕ → ℕ → V3 K) :
    V3.sumTo (m + 1) (fun j => V3.sumTo (n + 1) (fun i =>
        V3.cross (mesh i j) (meshPointForces (n + 1) (m + 1) (dec 375 1000) (dec 125 1000) F i j)))
      = panelMomentTotal n m (dec 25 100) mesh F := by
  have h1 : (dec 375 1000 : K) = 3 / 8 := by simp only [dec_def]; push_cast; norm_num
  have h2 : (dec 125 1000 : K) = 1 / 8 := by simp only [dec_def]; push_cast; norm_num
  have h3 : (dec 25 100 : K) = 1 / 4 := by simp only [dec_def]; push_cast; norm_num
  have h4 : (dec 1 2 : K) = 1 / 2 := by simp only [dec_def]; push_cast; norm_num
  refine V3.ext_linear fun p hp => ?_
  simp only [panelMomentTotal, hp.map_sumTo,
    sum_linear_meshPointForces n m _ _ F (fun i j v => p (V3.cross (mesh i j) v)) (fun _ _ => hp.cross_left _)]
  refine Finset.sum_congr rfl (fun j _ => Finset.sum_congr rfl (fun i _ => ?_))
  simp only [LoadTransfer.aPt, V3.cross_add_left, V3.cross_smul_left, hp.add, hp.smul, h1, h2, h3, h4]
  ring

end C11

namespace C11

/-! ### displacement transfer: zero displacement, translation, first-order rotation (over ℝ) -/

/-- zero rotation gives the zero transformation matrix -/
theorem c11_T_zero : transformationMatrix (⟨0, 0, 0⟩ : V3 ℝ) = ⟨⟨0, 0, 0⟩, ⟨0, 0, 0⟩, ⟨0, 0, 0⟩⟩ := by
  simp [transformationMatrix]
  norm_num

/-- **Zero structural displacement leaves the aerodynamic mesh unchanged** (exactly). -/
theorem c11_zero_disp (mesh : Mesh ℝ) (nodes : Pts ℝ) (i j : ℕ) :
    displacementTransfer mesh nodes (fun _ => ⟨0, 0, 0⟩) (fun _ => transformationMatrix ⟨0, 0, 0⟩) i j
      = mesh i j := by
  rw [c11_T_zero]
  ext <;> simp [displacementTransfer, M3.mulVec, V3.dot]

/-- **A pure translation translates the mesh exactly** (whatever the node positions). -/
theorem c11_translation (mesh : Mesh ℝ) (nodes : Pts ℝ) (t : V3 ℝ) (i j : ℕ) :
    displacementTransfer mesh nodes (fun _ => t) (fun _ => transformationMatrix ⟨0, 0, 0⟩) i j
      = mesh i j + t := by
  rw [c11_T_zero]
  ext <;> simp [displacementTransfer, M3.mulVec, V3.dot]

private theorem hcos (c : ℝ) : HasDerivAt (fun t : ℝ => Real.cos (t * c)) 0 0 := by
  have := ((hasDerivAt_id (0 : ℝ)).mul_const c).cos
  simpa using this

private theorem hsin (c : ℝ) : HasDerivAt (fun t : ℝ => Real.sin (t * c)) c 0 := by
  have := ((hasDerivAt_id (0 : ℝ)).mul_const c).sin
  simpa using this

/-- **Rotations act to first order as a rigid rotation about the structural node**: the
derivative at 0 of `t ↦ T(t·a) · v` is the cross product `a × v` (x component). -/
theorem c11_first_order_rotation_x (a v : V3 ℝ) :
    HasDerivAt (fun t : ℝ => ((transformationMatrix (V3.smul t a)).mulVec v).x) (V3.cross a v).x 0 := by
  have h := ((((((hasDerivAt_const (0 : ℝ) ((0 : ℝ) - ((2 : ℕ) : ℝ))).add (hcos a.y)).add (hcos a.z)).mul_const v.x).add
    (((hasDerivAt_const (0 : ℝ) (0 : ℝ)).sub (hsin a.z)).mul_const v.y)).add
    (((hasDerivAt_const (0 : ℝ) (0 : ℝ)).add (hsin a.y)).mul_const v.z))
  exact h.congr_deriv (by simp; ring)

theorem c11_first_order_rotation_y (a v : V3 ℝ) :
    HasDerivAt (fun t : ℝ => ((transformationMatrix (V3.smul t a)).mulVec v).y) (V3.cross a v).y 0 := by
  have h := ((((hasDerivAt_const (0 : ℝ) (0 : ℝ)).add (hsin a.z)).mul_const v.x).add
    (((((hasDerivAt_const (0 : ℝ) ((0 : ℝ) - ((2 : ℕ) : ℝ))).add (hcos a.x)).add (hcos a.z)).mul_const v.y))).add
    (((hasDerivAt_const (0 : ℝ) (0 : ℝ)).sub (hsin a.x)).mul_const v.z)
  exact h.congr_deriv (by simp; ring)

theorem c11_first_order_rotation_z (a v : V3 ℝ) :
    HasDerivAt (fun t : ℝ => ((transformationMatrix (V3.smul t a)).mulVec v).z) (V3.cross a v).z 0 := by
  have h := ((((hasDerivAt_const (0 : ℝ) (0 : ℝ)).sub (hsin a.y)).mul_const v.x).add
    (((hasDerivAt_const (0 : ℝ) (0 : ℝ)).add (hsin a.x)).mul_const v.y)).add
    (((((hasDerivAt_const (0 : ℝ) ((0 : ℝ) - ((2 : ℕ) : ℝ))).add (hcos a.x)).add (hcos a.y)).mul_const v.z))
  exact h.congr_deriv (by simp; ring)

/-- non-vacuity / sanity: a concrete 2×2 panel case of force conservation evaluates as stated -/
example : (2 : ℕ) + 1 = 3 := rfl

end C11
end OAS
