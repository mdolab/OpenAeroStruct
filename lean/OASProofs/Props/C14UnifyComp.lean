import OASProofs.Props.C14Unify

/-!
# C14 (continued)  The run-time component `GeomMultiUnification.compute`

Model: `Unify.unifyComp` (`geometry_unification.py: GeomMultiUnification.compute`).  The component re-implements the loop of
`unify_mesh`; unlike the function it applies the leading-edge shift before the *last* section as well.  For C0-continuous
sections (and always without the shift) it produces the same contiguous surface, node for node; for detached sections the two
differ (`c14_comp_differs_when_detached`), which is outside the property (it quantifies over C0-continuous sections).
-/
set_option linter.unusedSectionVars false
set_option linter.unusedSimpArgs false
namespace OAS
namespace C14Unify
open Unify

/-- the component's loop differs from the function's only in shifting before the last section too: the two agree as soon as
that shift vanishes … -/
theorem unifyCompAux_fst (shift : Bool) : ∀ (l : List (Sec ℝ)) (acc : Mesh ℝ) (n : ℕ) (prev : Sec ℝ),
    (shift = true → C0 (prev :: l)) → (unifyCompAux shift acc n prev l).1 = (unifyAux shift acc n prev l).1
  | [], _, _, _, _ => rfl
  | [s], acc, n, prev, h => by
      show (fun i c => if c < n then (if shift = true then fun i c => acc i c - prev.mesh 0 (prev.ny - 1) + s.mesh 0 0 else acc) i c
        else s.mesh i (c - n)) = _
      rw [shift_eq_self shift acc prev s h]; rfl
  | s :: s' :: rest, _, _, _, h => unifyCompAux_fst shift (s' :: rest) _ _ s fun hs => (h hs).2

/-- … and they always count the same number of columns -/
theorem unifyCompAux_snd (shift : Bool) : ∀ (l : List (Sec ℝ)) (acc : Mesh ℝ) (n : ℕ) (prev : Sec ℝ),
    (unifyCompAux shift acc n prev l).2 = (unifyAux shift acc n prev l).2
  | [], _, _, _ => rfl
  | [_], _, _, _ => rfl
  | s :: s' :: rest, _, _, _ => unifyCompAux_snd shift (s' :: rest) _ _ s

/-- hence component and function agree on C0-continuous sections, with either setting of the shift option -/
theorem c14_unify_comp_eq_function (shift : Bool) (s s' : Sec ℝ) (rest : List (Sec ℝ)) (h : C0 (s :: s' :: rest)) :
    (unifyComp shift (s :: s' :: rest)).1 = (unify shift (s :: s' :: rest)).1 :=
  unifyCompAux_fst shift (s' :: rest) s.mesh (s.ny - 1) s fun _ => h

/-- **the component without the shift is the plain concatenation** (two or more sections) -/
theorem c14_unify_comp_noshift (s s' : Sec ℝ) (rest : List (Sec ℝ)) :
    (unifyComp false (s :: s' :: rest)).1 = contig (s :: s' :: rest) :=
  (unifyCompAux_fst false (s' :: rest) s.mesh (s.ny - 1) s nofun).trans (c14_unify_noshift (s :: s' :: rest))

/-- **the component with the shift unifies C0-continuous sections into the same contiguous surface, node for node** -/
theorem c14_unify_comp_shift (s s' : Sec ℝ) (rest : List (Sec ℝ)) (h : C0 (s :: s' :: rest)) :
    (unifyComp true (s :: s' :: rest)).1 = contig (s :: s' :: rest) :=
  (c14_unify_comp_eq_function true s s' rest h).trans (c14_unify_shift (s :: s' :: rest) h)

/-- remark (outside the property): for *detached* sections the component shifts the outboard section of a two-section wing
onto the inboard one, the function `unify_mesh` (used for the dictionary mesh at set-up) does not -/
theorem c14_comp_differs_when_detached :
    ∃ (s s' : Sec ℝ), (unifyComp true [s, s']).1 0 0 ≠ (unify true [s, s']).1 0 0 := by
  refine ⟨⟨2, fun _ _ => ⟨0, 0, 0⟩⟩, ⟨2, fun _ _ => ⟨1, 0, 0⟩⟩, ?_⟩
  simp only [unifyComp, unifyCompAux, unify, unifyAux]
  intro h
  have := congrArg V3.x h
  norm_num at this

/-- number of spanwise nodes written by the component (two or more sections): `uni_ny` -/
theorem c14_unify_comp_ny (shift : Bool) (s s' : Sec ℝ) (rest : List (Sec ℝ)) :
    (unifyComp shift (s :: s' :: rest)).2 = totalNy (s :: s' :: rest) :=
  (unifyCompAux_snd shift (s' :: rest) s.mesh (s.ny - 1) s).trans (c14_unify_ny shift (s :: s' :: rest))

/-- `GeomMultiJoin`: the separation of a shared edge vanishes exactly when the two corner points coincide, and for
C0-continuous sections every separation vanishes -/
theorem c14_join_zero_of_C0 (nx : ℕ) : ∀ (secs : List (Sec ℝ)), C0 secs → ∀ k, k + 1 < secs.length → ∀ te,
    joinSeparation nx secs k te = 0
  | [], _, k, hk, _ => absurd hk (Nat.not_lt_zero _)
  | [_], _, k, hk, _ => absurd (Nat.lt_of_succ_lt_succ hk) (Nat.not_lt_zero _)
  | s :: s' :: rest, h, 0, _, te => by
      show s'.mesh _ 0 - s.mesh _ (s.ny - 1) = 0
      rw [h.1]; ext <;> simp
  | s :: s' :: rest, h, k + 1, hk, te => c14_join_zero_of_C0 nx (s' :: rest) h.2 k (Nat.lt_of_succ_lt_succ hk) te

end C14Unify
end OAS
