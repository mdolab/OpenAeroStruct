import OASProofs.Lemmas.AD

/-!
# C01 (continued)  The derivative oracle of the correspondence check is exact

The correspondence check of every run compares the Jacobian each OpenAeroStruct component reports with the
derivative of the *model* of that component, computed by instantiating the model at dual numbers
(`OASModel/Dual.lean`).  The theorems below show, for the model definitions listed, that this dual-number
evaluation is the exact derivative of the real-number instantiation along **any** differentiable curve through the
input space (`Tracks a f t`: `a` carries the value and the derivative of `f` at `t`) – i.e. every partial derivative
and every directional derivative, at every point where the formula is differentiable (the stated side conditions:
non-zero denominators, positive arguments of `sqrt`, `log`, real powers).  They are derived syntax-directed from the
soundness of each primitive (`OASProofs/Lemmas/AD.lean`), so they hold for the definitions as they are, not for a
re-statement of them.
-/
set_option linter.unusedSectionVars false
set_option linter.unusedSimpArgs false
set_option linter.unusedTactic false
set_option linter.unreachableTactic false
namespace OAS
namespace C01AD
open AD

variable {t : ℝ}

/-! ### Coeffs, Reynolds, totals -/

theorem coeff_exact {X rho v S : Dual ℝ} {fX fr fv fS : ℝ → ℝ}
    (hX : Tracks X fX t) (hr : Tracks rho fr t) (hv : Tracks v fv t) (hS : Tracks S fS t)
    (h0 : dec 1 2 * fr t * (fv t * fv t) * fS t ≠ 0) :
    Tracks (coeff X rho v S) (fun x => coeff (fX x) (fr x) (fv x) (fS x)) t := by
  unfold coeff; track

theorem reynolds_exact {rho v mu : Dual ℝ} {fr fv fm : ℝ → ℝ}
    (hr : Tracks rho fr t) (hv : Tracks v fv t) (hm : Tracks mu fm t) (h0 : fm t ≠ 0) :
    Tracks (reynolds rho v mu) (fun x => reynolds (fr x) (fv x) (fm x)) t := by
  unfold reynolds; track

theorem totalDrag_exact {a b c d : Dual ℝ} {fa fb fc fd : ℝ → ℝ}
    (ha : Tracks a fa t) (hb : Tracks b fb t) (hc : Tracks c fc t) (hd : Tracks d fd t) :
    Tracks (totalDrag a b c d) (fun x => totalDrag (fa x) (fb x) (fc x) (fd x)) t := by
  unfold totalDrag; track

theorem breguet_exact (ns : ℕ) {sm : ℕ → Dual ℝ} {fsm : ℕ → ℝ → ℝ} {CT CL CD a R M W0 : Dual ℝ}
    {fCT fCL fCD fa fR fM fW0 : ℝ → ℝ} (hsm : ∀ k, Tracks (sm k) (fsm k) t)
    (h1 : Tracks CT fCT t) (h2 : Tracks CL fCL t) (h3 : Tracks CD fCD t) (h4 : Tracks a fa t) (h5 : Tracks R fR t)
    (h6 : Tracks M fM t) (h7 : Tracks W0 fW0 t) (ha : fa t ≠ 0) (hM : fM t ≠ 0) (hCL : fCL t ≠ 0) :
    Tracks (breguetFuelburn ns sm CT CL CD a R M W0)
      (fun x => breguetFuelburn ns (fun k => fsm k x) (fCT x) (fCL x) (fCD x) (fa x) (fR x) (fM x) (fW0 x)) t := by
  unfold breguetFuelburn
  apply Tracks.mul
  · apply Tracks.add h7
    exact Tracks.sumTo ns sm fsm (fun k _ => hsm k)
  · track

/-! ### ViscousDrag: skin friction, form factor, the three `k_lam` branches, the spanwise sum -/

theorem log10_pos' {x : ℝ} (h : 1 < x) : 0 < Real.log x / Real.log ((10 : ℕ) : ℝ) :=
  div_pos (Real.log_pos h) (Real.log_pos (by norm_num))

theorem cfLam_exact {Re : Dual ℝ} {fRe : ℝ → ℝ} (h : Tracks Re fRe t) (h0 : 0 < fRe t) :
    Tracks (ViscousDrag.cfLam Re) (fun x => ViscousDrag.cfLam (fRe x)) t := by
  unfold ViscousDrag.cfLam; track
  exact (Real.sqrt_pos.mpr h0).ne'

theorem compress_pos (m : ℝ) : (0 : ℝ) < 1 + dec 144 1000 * (m * m) := by
  have : (0 : ℝ) ≤ dec 144 1000 * (m * m) := mul_nonneg (by simp [dec_def]; norm_num) (mul_self_nonneg _)
  linarith

theorem cfTurb_exact {Re M : Dual ℝ} {fRe fM : ℝ → ℝ} (h : Tracks Re fRe t) (hM : Tracks M fM t) (h0 : 1 < fRe t) :
    Tracks (ViscousDrag.cfTurb Re M) (fun x => ViscousDrag.cfTurb (fRe x) (fM x)) t := by
  have hp := compress_pos (fM t)
  unfold ViscousDrag.cfTurb ViscousDrag.log10; track
  · exact (lt_trans zero_lt_one h0).ne'
  · norm_num
  · exact (Real.log_pos (by norm_num)).ne'
  · exact log10_pos' h0
  · exact (Real.rpow_pos_of_pos (log10_pos' h0) _).ne'
  · exact (Real.rpow_pos_of_pos hp _).ne'

theorem formFactor_exact (cmaxt : ℝ) {M toc cs : Dual ℝ} {fM ft fc : ℝ → ℝ} (hM : Tracks M fM t) (ht : Tracks toc ft t)
    (hc : Tracks cs fc t) (h1 : 0 < fM t) (h2 : 0 < fc t) (h3 : cmaxt ≠ 0) :
    Tracks (ViscousDrag.formFactor (⟨cmaxt, 0⟩ : Dual ℝ) M toc cs)
      (fun x => ViscousDrag.formFactor cmaxt (fM x) (ft x) (fc x)) t := by
  unfold ViscousDrag.formFactor; track

/-- the section skin-friction coefficient in all three branches of the laminar fraction `k_lam` (an option, hence a
constant): fully turbulent, transition, fully laminar (the branch whose `∂/∂re` the code had as zero, F3) -/
theorem cd_exact (klam : ℝ) {Rec M : Dual ℝ} {fR fM : ℝ → ℝ} (hR : Tracks Rec fR t) (hM : Tracks M fM t)
    (h1 : 1 < fR t) (h2 : klam ≠ 0 → 1 < fR t * klam) :
    Tracks (ViscousDrag.cd (⟨klam, 0⟩ : Dual ℝ) Rec M) (fun x => ViscousDrag.cd klam (fR x) (fM x)) t := by
  have hk : Tracks (⟨klam, 0⟩ : Dual ℝ) (fun _ => klam) t := Tracks.const klam
  unfold ViscousDrag.cd
  simp only [Dual.lt_iff, Dual.zero_v, Dual.one_v, Dual.mk_v]
  by_cases hz : klam < 0 ∨ 0 < klam
  · have hne : klam ≠ 0 := by rcases hz with h | h <;> [exact ne_of_lt h; exact ne_of_gt h]
    have hRk : Tracks (Rec * ⟨klam, 0⟩) (fun x => fR x * klam) t := hR.mul hk
    have h2' := h2 hne
    simp only [hz, if_true]
    by_cases h1k : klam < 1
    · simp only [h1k, if_true]
      exact ((((cfLam_exact hRk (by linarith)).sub (cfTurb_exact hRk hM h2')).mul hk).add (cfTurb_exact hR hM h1))
    · simp only [h1k, if_false]
      exact ((((cfLam_exact hRk (by linarith)).sub Tracks.zero).mul hk).add Tracks.zero)
  · simp only [hz, if_false]
    exact (((Tracks.zero.sub Tracks.zero).mul hk).add (cfTurb_exact hR hM h1))

/-- **`ViscousDrag.compute`**: the whole spanwise sum, every input tracked (`re`, `Mach_number`, `S_ref`, `widths`,
`lengths_spanwise`, `lengths`, `t_over_c`), any number of spanwise sections -/
theorem cdv_exact (ny : ℕ) (sym : Bool) (klam cmaxt : ℝ) {re M S : Dual ℝ} {w lsp len toc : ℕ → Dual ℝ}
    {fre fM fS : ℝ → ℝ} {fw flsp flen ftoc : ℕ → ℝ → ℝ}
    (hre : Tracks re fre t) (hM : Tracks M fM t) (hS : Tracks S fS t)
    (hw : ∀ j, Tracks (w j) (fw j) t) (hl : ∀ j, Tracks (lsp j) (flsp j) t) (hlen : ∀ j, Tracks (len j) (flen j) t)
    (htoc : ∀ j, Tracks (toc j) (ftoc j) t)
    (hS0 : fS t ≠ 0) (hM0 : 0 < fM t) (hc : cmaxt ≠ 0)
    (hRe : ∀ j, j < ny - 1 → 1 < fre t * ((flen (j + 1) t + flen j t) / ((2 : ℕ) : ℝ)))
    (hRek : ∀ j, j < ny - 1 → klam ≠ 0 → 1 < fre t * ((flen (j + 1) t + flen j t) / ((2 : ℕ) : ℝ)) * klam)
    (hlsp : ∀ j, j < ny - 1 → flsp j t ≠ 0) (hcos : ∀ j, j < ny - 1 → 0 < fw j t / flsp j t) :
    Tracks (ViscousDrag.cdv ny true sym (⟨klam, 0⟩ : Dual ℝ) (⟨cmaxt, 0⟩ : Dual ℝ) re M S w lsp len toc)
      (fun x => ViscousDrag.cdv ny true sym klam cmaxt (fre x) (fM x) (fS x) (fun j => fw j x) (fun j => flsp j x)
        (fun j => flen j x) (fun j => ftoc j x)) t := by
  have hsum : Tracks
      (sumTo (ny - 1) (fun j => ((2 : ℕ) : Dual ℝ) * ViscousDrag.cd (⟨klam, 0⟩ : Dual ℝ) (re * ((len (j + 1) + len j) / ((2 : ℕ) : Dual ℝ))) M
          * ((len (j + 1) + len j) / ((2 : ℕ) : Dual ℝ)) * w j
          * ViscousDrag.formFactor (⟨cmaxt, 0⟩ : Dual ℝ) M (toc j) (w j / lsp j)))
      (fun x => sumTo (ny - 1) (fun j => ((2 : ℕ) : ℝ) * ViscousDrag.cd klam (fre x * ((flen (j + 1) x + flen j x) / ((2 : ℕ) : ℝ))) (fM x)
          * ((flen (j + 1) x + flen j x) / ((2 : ℕ) : ℝ)) * fw j x
          * ViscousDrag.formFactor cmaxt (fM x) (ftoc j x) (fw j x / flsp j x))) t := by
    refine Tracks.sumTo _ _ _ ?_
    intro j hj
    have h2 : ((2 : ℕ) : ℝ) ≠ 0 := by norm_num
    have hch : Tracks ((len (j + 1) + len j) / ((2 : ℕ) : Dual ℝ)) (fun x => (flen (j + 1) x + flen j x) / ((2 : ℕ) : ℝ)) t :=
      ((hlen (j + 1)).add (hlen j)).div (Tracks.natCast 2) h2
    have hcd := cd_exact klam (hre.mul hch) hM (hRe j hj) (hRek j hj)
    have hff := formFactor_exact cmaxt hM (htoc j) ((hw j).div (hl j) (hlsp j hj)) hM0 (hcos j hj) hc
    exact ((((Tracks.natCast 2).mul hcd).mul hch).mul (hw j)).mul hff
  unfold ViscousDrag.cdv
  simp only [if_true]
  cases sym
  · simp only [Bool.false_eq_true, if_false]
    exact hsum.div hS hS0
  · simp only [if_true]
    exact (hsum.div hS hS0).mul (Tracks.natCast 2)

/-! ### transfer components -/

theorem computeNodes_exact (nx : ℕ) {w : Dual ℝ} {fw : ℝ → ℝ} {m : Mesh (Dual ℝ)} {fm : ℝ → Mesh ℝ}
    (hw : Tracks w fw t) (hm : ∀ i j, TracksV (m i j) (fun s => fm s i j) t) (j : ℕ) :
    TracksV (computeNodes nx w m j) (fun s => computeNodes nx (fw s) (fm s) j) t := by
  simp only [computeNodes]; track

/-- `LoadTransfer`: nodal forces, w.r.t. the sectional forces -/
theorem loadForce_exact (nx ny : ℕ) {F : ℕ → ℕ → V3 (Dual ℝ)} {fF : ℝ → ℕ → ℕ → V3 ℝ}
    (hF : ∀ i j, TracksV (F i j) (fun s => fF s i j) t) (j : ℕ) :
    TracksV (LoadTransfer.force nx ny F j) (fun s => LoadTransfer.force nx ny (fF s) j) t := by
  simp only [LoadTransfer.force, LoadTransfer.secSum]; track

/-- `LoadTransfer`: nodal moments, w.r.t. the deformed mesh and the sectional forces (the hand-derived cross-product
partials of `load_transfer.py`) -/
theorem loadMoment_exact (nx ny : ℕ) (w1 w2 : ℝ) {m : Mesh (Dual ℝ)} {fm : ℝ → Mesh ℝ} {F : ℕ → ℕ → V3 (Dual ℝ)}
    {fF : ℝ → ℕ → ℕ → V3 ℝ} (hm : ∀ i j, TracksV (m i j) (fun s => fm s i j) t)
    (hF : ∀ i j, TracksV (F i j) (fun s => fF s i j) t) (j : ℕ) :
    TracksV (LoadTransfer.moment nx ny (⟨w1, 0⟩ : Dual ℝ) (⟨w2, 0⟩ : Dual ℝ) m F j)
      (fun s => LoadTransfer.moment nx ny w1 w2 (fm s) (fF s) j) t := by
  simp only [LoadTransfer.moment, LoadTransfer.momentIn, LoadTransfer.momentOut, LoadTransfer.aPt, LoadTransfer.sPt]
  track

/-- `ComputeTransformationMatrix`, every entry -/
theorem transformationMatrix_exact {r : V3 (Dual ℝ)} {fr : ℝ → V3 ℝ} (hr : TracksV r fr t) :
    TracksV (transformationMatrix r).r0 (fun s => (transformationMatrix (fr s)).r0) t ∧
    TracksV (transformationMatrix r).r1 (fun s => (transformationMatrix (fr s)).r1) t ∧
    TracksV (transformationMatrix r).r2 (fun s => (transformationMatrix (fr s)).r2) t := by
  have hx := hr.x; have hy := hr.y; have hz := hr.z
  refine ⟨⟨?_, ?_, ?_⟩, ⟨?_, ?_, ?_⟩, ⟨?_, ?_, ?_⟩⟩ <;> simp only [transformationMatrix] <;> track

/-- `DisplacementTransfer`, w.r.t. mesh, nodes, translations and the transformation matrices -/
theorem displacementTransfer_exact {m : Mesh (Dual ℝ)} {fm : ℝ → Mesh ℝ} {n d : Pts (Dual ℝ)} {fn fd : ℝ → Pts ℝ}
    {T : ℕ → M3 (Dual ℝ)} {fT : ℝ → ℕ → M3 ℝ}
    (hm : ∀ i j, TracksV (m i j) (fun s => fm s i j) t) (hn : ∀ j, TracksV (n j) (fun s => fn s j) t)
    (hd : ∀ j, TracksV (d j) (fun s => fd s j) t)
    (h0 : ∀ j, TracksV (T j).r0 (fun s => (fT s j).r0) t) (h1 : ∀ j, TracksV (T j).r1 (fun s => (fT s j).r1) t)
    (h2 : ∀ j, TracksV (T j).r2 (fun s => (fT s j).r2) t) (i j : ℕ) :
    TracksV (displacementTransfer m n d T i j) (fun s => displacementTransfer (fm s) (fn s) (fd s) (fT s) i j) t := by
  simp only [displacementTransfer]; track

theorem meshPointForces_exact (nx ny : ℕ) (le te : ℝ) {F : ℕ → ℕ → V3 (Dual ℝ)} {fF : ℝ → ℕ → ℕ → V3 ℝ}
    (hF : ∀ i j, TracksV (F i j) (fun s => fF s i j) t) (i j : ℕ) :
    TracksV (meshPointForces nx ny (⟨le, 0⟩ : Dual ℝ) (⟨te, 0⟩ : Dual ℝ) F i j)
      (fun s => meshPointForces nx ny le te (fF s) i j) t := by
  simp only [meshPointForces]; track

/-! ### structural mass, centre of gravity, distributed and point loads -/

theorem elemLength_exact {n : Pts (Dual ℝ)} {fn : ℝ → Pts ℝ} (hn : ∀ j, TracksV (n j) (fun s => fn s j) t) (e : ℕ)
    (h0 : 0 < V3.normSq (elemDelta (fn t) e)) :
    Tracks (elemLength n e) (fun s => elemLength (fn s) e) t := by
  simp only [elemLength, elemDelta]; track; exact h0

theorem elementMass_exact (mrho wwr : ℝ) {n : Pts (Dual ℝ)} {fn : ℝ → Pts ℝ} {A : ℕ → Dual ℝ} {fA : ℕ → ℝ → ℝ}
    (hn : ∀ j, TracksV (n j) (fun s => fn s j) t) (hA : ∀ e, Tracks (A e) (fA e) t) (e : ℕ)
    (h0 : 0 < V3.normSq (elemDelta (fn t) e)) :
    Tracks (elementMass (⟨mrho, 0⟩ : Dual ℝ) (⟨wwr, 0⟩ : Dual ℝ) n A e)
      (fun s => elementMass mrho wwr (fn s) (fun k => fA k s) e) t := by
  simp only [elementMass]
  exact (((elemLength_exact hn e h0).mul (hA e)).mul (Tracks.const _)).mul (Tracks.const _)

/-- `Weight`: structural mass, any number of elements -/
theorem structuralMass_exact (ny : ℕ) (sym : Bool) (mrho wwr : ℝ) {n : Pts (Dual ℝ)} {fn : ℝ → Pts ℝ} {A : ℕ → Dual ℝ}
    {fA : ℕ → ℝ → ℝ} (hn : ∀ j, TracksV (n j) (fun s => fn s j) t) (hA : ∀ e, Tracks (A e) (fA e) t)
    (h0 : ∀ e, e < ny - 1 → 0 < V3.normSq (elemDelta (fn t) e)) :
    Tracks (structuralMass ny sym (⟨mrho, 0⟩ : Dual ℝ) (⟨wwr, 0⟩ : Dual ℝ) n A)
      (fun s => structuralMass ny sym mrho wwr (fn s) (fun k => fA k s)) t := by
  have hs := Tracks.sumTo (ny - 1) (elementMass (⟨mrho, 0⟩ : Dual ℝ) (⟨wwr, 0⟩ : Dual ℝ) n A)
    (fun e s => elementMass mrho wwr (fn s) (fun k => fA k s) e) (fun e he => elementMass_exact mrho wwr hn hA e (h0 e he))
  simp only [structuralMass]
  cases sym
  · exact hs
  · exact hs.mul (Tracks.natCast 2)

/-- `StructuralCG`, w.r.t. nodes, total mass and element masses -/
theorem structuralCG_exact (ny : ℕ) (sym : Bool) {n : Pts (Dual ℝ)} {fn : ℝ → Pts ℝ} {M : Dual ℝ} {fM : ℝ → ℝ}
    {em : ℕ → Dual ℝ} {fem : ℕ → ℝ → ℝ} (hn : ∀ j, TracksV (n j) (fun s => fn s j) t) (hM : Tracks M fM t)
    (hem : ∀ e, Tracks (em e) (fem e) t) (h0 : fM t ≠ 0) :
    TracksV (structuralCG ny sym n M em) (fun s => structuralCG ny sym (fn s) (fM s) (fun k => fem k s)) t := by
  have h2 : ((2 : ℕ) : ℝ) ≠ 0 := by norm_num
  cases sym <;> refine ⟨?_, ?_, ?_⟩ <;> simp only [structuralCG, elemCenter, Bool.false_eq_true, if_false, if_true] <;>
    track

theorem fuelVolDelta_exact (ny : ℕ) (sym : Bool) {v : ℕ → Dual ℝ} {fv : ℕ → ℝ → ℝ} {fb rs rho : Dual ℝ}
    {ffb frs frho : ℝ → ℝ} (hv : ∀ e, Tracks (v e) (fv e) t) (h1 : Tracks fb ffb t) (h2 : Tracks rs frs t)
    (h3 : Tracks rho frho t) (h0 : frho t ≠ 0) :
    Tracks (fuelVolDelta ny sym v fb rs rho) (fun s => fuelVolDelta ny sym (fun k => fv k s) (ffb s) (frs s) (frho s)) t := by
  have h2' : ((2 : ℕ) : ℝ) ≠ 0 := by norm_num
  cases sym <;> simp only [fuelVolDelta, Bool.false_eq_true, if_false, if_true] <;> track

/-! ### VLMGeometry: widths, lengths, chords, normals, reference area -/

theorem widths_exact (nx : ℕ) {m : Mesh (Dual ℝ)} {fm : ℝ → Mesh ℝ} (hm : ∀ i j, TracksV (m i j) (fun s => fm s i j) t)
    (j : ℕ)
    (h0 : 0 < (VLMGeometry.quarterChord nx (fm t) (j + 1) - VLMGeometry.quarterChord nx (fm t) j).y
              * (VLMGeometry.quarterChord nx (fm t) (j + 1) - VLMGeometry.quarterChord nx (fm t) j).y
            + (VLMGeometry.quarterChord nx (fm t) (j + 1) - VLMGeometry.quarterChord nx (fm t) j).z
              * (VLMGeometry.quarterChord nx (fm t) (j + 1) - VLMGeometry.quarterChord nx (fm t) j).z) :
    Tracks (VLMGeometry.widths nx m j) (fun s => VLMGeometry.widths nx (fm s) j) t := by
  simp only [VLMGeometry.widths, VLMGeometry.quarterChord]
  track; exact h0

theorem lengthsSpanwise_exact (nx : ℕ) {m : Mesh (Dual ℝ)} {fm : ℝ → Mesh ℝ}
    (hm : ∀ i j, TracksV (m i j) (fun s => fm s i j) t) (j : ℕ)
    (h0 : 0 < V3.normSq (VLMGeometry.quarterChord nx (fm t) (j + 1) - VLMGeometry.quarterChord nx (fm t) j)) :
    Tracks (VLMGeometry.lengthsSpanwise nx m j) (fun s => VLMGeometry.lengthsSpanwise nx (fm s) j) t := by
  simp only [VLMGeometry.lengthsSpanwise, VLMGeometry.quarterChord]
  track; exact h0

theorem lengths_exact (nx : ℕ) {m : Mesh (Dual ℝ)} {fm : ℝ → Mesh ℝ} (hm : ∀ i j, TracksV (m i j) (fun s => fm s i j) t)
    (j : ℕ) (h0 : ∀ i, i < nx - 1 → 0 < V3.normSq (fm t (i + 1) j - fm t i j)) :
    Tracks (VLMGeometry.lengths nx m j) (fun s => VLMGeometry.lengths nx (fm s) j) t := by
  simp only [VLMGeometry.lengths]
  track; exact h0 _ ‹_›

theorem chords_exact (nx : ℕ) {m : Mesh (Dual ℝ)} {fm : ℝ → Mesh ℝ} (hm : ∀ i j, TracksV (m i j) (fun s => fm s i j) t)
    (j : ℕ) (h0 : 0 < V3.normSq (fm t 0 j - fm t (nx - 1) j)) :
    Tracks (VLMGeometry.chords nx m j) (fun s => VLMGeometry.chords nx (fm s) j) t := by
  simp only [VLMGeometry.chords]
  track

/-- unit panel normals (cross product of the diagonals, normalised) -/
theorem normals_exact {m : Mesh (Dual ℝ)} {fm : ℝ → Mesh ℝ} (hm : ∀ i j, TracksV (m i j) (fun s => fm s i j) t)
    (i j : ℕ) (h0 : 0 < V3.normSq (VLMGeometry.rawNormal (fm t) i j)) :
    TracksV (VLMGeometry.normals m i j) (fun s => VLMGeometry.normals (fm s) i j) t := by
  simp only [VLMGeometry.normals, VLMGeometry.rawNormal]; track
  all_goals first | exact h0 | exact (Real.sqrt_pos.mpr h0).ne'

/-- wetted reference area (`S_ref_type = 'wetted'`), any `nx`, `ny` -/
theorem sRef_wetted_exact (nx ny : ℕ) (sym : Bool) {m : Mesh (Dual ℝ)} {fm : ℝ → Mesh ℝ}
    (hm : ∀ i j, TracksV (m i j) (fun s => fm s i j) t)
    (h0 : ∀ i j, i < nx - 1 → j < ny - 1 → 0 < V3.normSq (VLMGeometry.rawNormal (fm t) i j)) :
    Tracks (VLMGeometry.sRef nx ny sym false m) (fun s => VLMGeometry.sRef nx ny sym false (fm s)) t := by
  have hs : Tracks (dec 1 2 * sumTo (nx - 1) (fun i => sumTo (ny - 1) (fun j => V3.norm (VLMGeometry.rawNormal m i j))))
      (fun s => dec 1 2 * sumTo (nx - 1) (fun i => sumTo (ny - 1) (fun j => V3.norm (VLMGeometry.rawNormal (fm s) i j)))) t := by
    simp only [VLMGeometry.rawNormal]
    track; exact h0 _ _ ‹_› ‹_›
  simp only [VLMGeometry.sRef, Bool.false_eq_true, if_false]
  cases sym
  · exact hs
  · exact hs.mul (Tracks.natCast 2)

/-! ### LiftDrag, LiftCoeff2D -/

theorem liftDrag_exact (np : ℕ) (sym : Bool) {al be : Dual ℝ} {fa fb : ℝ → ℝ} {F : ℕ → V3 (Dual ℝ)} {fF : ℝ → ℕ → V3 ℝ}
    (ha : Tracks al fa t) (hb : Tracks be fb t) (hF : ∀ k, TracksV (F k) (fun s => fF s k) t) :
    Tracks (liftDrag np sym al be F).1 (fun s => (liftDrag np sym (fa s) (fb s) (fF s)).1) t ∧
    Tracks (liftDrag np sym al be F).2 (fun s => (liftDrag np sym (fa s) (fb s) (fF s)).2) t := by
  have h180 : ((180 : ℕ) : ℝ) ≠ 0 := by norm_num
  cases sym <;> refine ⟨?_, ?_⟩ <;> simp only [liftDrag, deg2rad, Bool.false_eq_true, if_false, if_true] <;> track

theorem liftCoeff2D_exact (nx : ℕ) {al rho v : Dual ℝ} {fa fr fv : ℝ → ℝ} {F : ℕ → ℕ → V3 (Dual ℝ)}
    {fF : ℝ → ℕ → ℕ → V3 ℝ} {w c : ℕ → Dual ℝ} {fw fc : ℕ → ℝ → ℝ}
    (ha : Tracks al fa t) (hr : Tracks rho fr t) (hv : Tracks v fv t) (hF : ∀ i j, TracksV (F i j) (fun s => fF s i j) t)
    (hw : ∀ j, Tracks (w j) (fw j) t) (hc : ∀ j, Tracks (c j) (fc j) t) (j : ℕ) (h1 : fw j t ≠ 0)
    (h2 : dec 1 2 * fr t * (fv t * fv t) * (dec 1 2 * (fc (j + 1) t + fc j t)) ≠ 0) :
    Tracks (liftCoeff2D nx al rho v F w c j)
      (fun s => liftCoeff2D nx (fa s) (fr s) (fv s) (fF s) (fun k => fw k s) (fun k => fc k s) j) t := by
  have h180 : ((180 : ℕ) : ℝ) ≠ 0 := by norm_num
  simp only [liftCoeff2D, deg2rad]; track

/-! ### WaveDrag: crest-critical Mach number and the two sides of the drag-divergence branch -/

theorem mcrit_exact (ny : ℕ) (ka : ℝ) {CL : Dual ℝ} {fCL : ℝ → ℝ} {toc w l c : ℕ → Dual ℝ} {ft fw fl fc : ℕ → ℝ → ℝ}
    (hCL : Tracks CL fCL t) (ht : ∀ j, Tracks (toc j) (ft j) t) (hw : ∀ j, Tracks (w j) (fw j) t)
    (hl : ∀ j, Tracks (l j) (fl j) t) (hc : ∀ j, Tracks (c j) (fc j) t)
    (hl0 : ∀ j, j < ny - 1 → fl j t ≠ 0)
    (hA : sumTo (ny - 1) (WaveDrag.panelArea (fun k => fc k t) (fun k => fw k t)) ≠ 0)
    (hcos : sumTo (ny - 1) (fun j => fw j t / fl j t * WaveDrag.panelArea (fun k => fc k t) (fun k => fw k t) j)
              / sumTo (ny - 1) (WaveDrag.panelArea (fun k => fc k t) (fun k => fw k t)) ≠ 0) :
    Tracks (WaveDrag.mcrit ny (⟨ka, 0⟩ : Dual ℝ) CL toc w l c)
      (fun s => WaveDrag.mcrit ny ka (fCL s) (fun k => ft k s) (fun k => fw k s) (fun k => fl k s) (fun k => fc k s)) t := by
  have h2 : ((2 : ℕ) : ℝ) ≠ 0 := by norm_num
  have h3 : ((3 : ℕ) : ℝ) ≠ 0 := by norm_num
  have h10 : ((10 : ℕ) : ℝ) ≠ 0 := by norm_num
  have h80 : ((80 : ℕ) : ℝ) ≠ 0 := by norm_num
  have hp : (0 : ℝ) < dec 1 10 / ((80 : ℕ) : ℝ) := by simp [dec_def]
  have hpa : ∀ k, Tracks (WaveDrag.panelArea c w k) (fun x => WaveDrag.panelArea (fun k => fc k x) (fun k => fw k x) k) t :=
    fun k => by unfold WaveDrag.panelArea; track
  simp only [WaveDrag.mcrit]
  have hcos2 := mul_ne_zero hcos hcos
  have hcos3 := mul_ne_zero hcos2 hcos
  have hcos10 := mul_ne_zero h10 hcos3
  track
  all_goals first | exact hl0 _ ‹_› | assumption

/-- wave drag above the crest-critical Mach number (`M > Mcrit`: the `20 (M − Mcrit)⁴` branch) … -/
theorem cdw_above_exact (ny : ℕ) (sym : Bool) (ka : ℝ) {M CL : Dual ℝ} {fM fCL : ℝ → ℝ} {toc w l c : ℕ → Dual ℝ}
    {ft fw fl fc : ℕ → ℝ → ℝ} (hM : Tracks M fM t)
    (hmc : Tracks (WaveDrag.mcrit ny (⟨ka, 0⟩ : Dual ℝ) CL toc w l c)
      (fun s => WaveDrag.mcrit ny ka (fCL s) (fun k => ft k s) (fun k => fw k s) (fun k => fl k s) (fun k => fc k s)) t)
    (habove : WaveDrag.mcrit ny ka (fCL t) (fun k => ft k t) (fun k => fw k t) (fun k => fl k t) (fun k => fc k t) < fM t) :
    Tracks (WaveDrag.cdw ny true sym (⟨ka, 0⟩ : Dual ℝ) M CL toc w l c)
      (fun s => WaveDrag.cdw ny true sym ka (fM s) (fCL s) (fun k => ft k s) (fun k => fw k s) (fun k => fl k s) (fun k => fc k s)) t := by
  have hd := hM.sub hmc
  have hbr := Tracks.ite_lt_pos (d := (0 : Dual ℝ)) (G := fun _ => (0 : ℝ)) hmc hM habove
    ((Tracks.natCast 20).mul (((hd.mul hd).mul hd).mul hd))
  cases sym
  · simpa only [WaveDrag.cdw, if_true, Bool.false_eq_true, if_false] using hbr
  · simpa only [WaveDrag.cdw, if_true] using hbr.mul (Tracks.natCast 2)

/-- … and below it (`M < Mcrit`: identically zero, with zero derivative – the partials the code must *reset*, C03) -/
theorem cdw_below_exact (ny : ℕ) (sym : Bool) (ka : ℝ) {M CL : Dual ℝ} {fM fCL : ℝ → ℝ} {toc w l c : ℕ → Dual ℝ}
    {ft fw fl fc : ℕ → ℝ → ℝ} (hM : Tracks M fM t)
    (hmc : Tracks (WaveDrag.mcrit ny (⟨ka, 0⟩ : Dual ℝ) CL toc w l c)
      (fun s => WaveDrag.mcrit ny ka (fCL s) (fun k => ft k s) (fun k => fw k s) (fun k => fl k s) (fun k => fc k s)) t)
    (hbelow : fM t < WaveDrag.mcrit ny ka (fCL t) (fun k => ft k t) (fun k => fw k t) (fun k => fl k t) (fun k => fc k t)) :
    Tracks (WaveDrag.cdw ny true sym (⟨ka, 0⟩ : Dual ℝ) M CL toc w l c)
      (fun s => WaveDrag.cdw ny true sym ka (fM s) (fCL s) (fun k => ft k s) (fun k => fw k s) (fun k => fl k s) (fun k => fc k s)) t := by
  have hbr := Tracks.ite_lt_neg
    (c := ((20 : ℕ) : Dual ℝ) * ((M - WaveDrag.mcrit ny (⟨ka, 0⟩ : Dual ℝ) CL toc w l c) * (M - WaveDrag.mcrit ny (⟨ka, 0⟩ : Dual ℝ) CL toc w l c)
        * (M - WaveDrag.mcrit ny (⟨ka, 0⟩ : Dual ℝ) CL toc w l c) * (M - WaveDrag.mcrit ny (⟨ka, 0⟩ : Dual ℝ) CL toc w l c)))
    (F := fun s => ((20 : ℕ) : ℝ) * ((fM s - WaveDrag.mcrit ny ka (fCL s) (fun k => ft k s) (fun k => fw k s) (fun k => fl k s) (fun k => fc k s))
        * (fM s - WaveDrag.mcrit ny ka (fCL s) (fun k => ft k s) (fun k => fw k s) (fun k => fl k s) (fun k => fc k s))
        * (fM s - WaveDrag.mcrit ny ka (fCL s) (fun k => ft k s) (fun k => fw k s) (fun k => fl k s) (fun k => fc k s))
        * (fM s - WaveDrag.mcrit ny ka (fCL s) (fun k => ft k s) (fun k => fw k s) (fun k => fl k s) (fun k => fc k s))))
    hmc hM hbelow (Tracks.zero)
  cases sym
  · simpa only [WaveDrag.cdw, if_true, Bool.false_eq_true, if_false] using hbr
  · simpa only [WaveDrag.cdw, if_true] using hbr.mul (Tracks.natCast 2)

/-! ### functionals -/

theorem totalLiftDrag_exact (ns : ℕ) {CL CD S : ℕ → Dual ℝ} {fCL fCD fS : ℕ → ℝ → ℝ} {rho v St : Dual ℝ} {fr fv fSt : ℝ → ℝ}
    (h1 : ∀ k, Tracks (CL k) (fCL k) t) (h2 : ∀ k, Tracks (CD k) (fCD k) t) (h3 : ∀ k, Tracks (S k) (fS k) t)
    (hr : Tracks rho fr t) (hv : Tracks v fv t) (hS : Tracks St fSt t) (h0 : fSt t ≠ 0) :
    Tracks (totalLiftDrag ns CL CD S rho v St).1 (fun s => (totalLiftDrag ns (fun k => fCL k s) (fun k => fCD k s) (fun k => fS k s) (fr s) (fv s) (fSt s)).1) t ∧
    Tracks (totalLiftDrag ns CL CD S rho v St).2.1 (fun s => (totalLiftDrag ns (fun k => fCL k s) (fun k => fCD k s) (fun k => fS k s) (fr s) (fv s) (fSt s)).2.1) t ∧
    Tracks (totalLiftDrag ns CL CD S rho v St).2.2.1 (fun s => (totalLiftDrag ns (fun k => fCL k s) (fun k => fCD k s) (fun k => fS k s) (fr s) (fv s) (fSt s)).2.2.1) t ∧
    Tracks (totalLiftDrag ns CL CD S rho v St).2.2.2 (fun s => (totalLiftDrag ns (fun k => fCL k s) (fun k => fCD k s) (fun k => fS k s) (fr s) (fv s) (fSt s)).2.2.2) t := by
  refine ⟨?_, ?_, ?_, ?_⟩ <;> simp only [totalLiftDrag] <;> track

theorem equilibrium_exact (ns : ℕ) {sm : ℕ → Dual ℝ} {fsm : ℕ → ℝ → ℝ} {fb W0 lf CL St v rho : Dual ℝ}
    {ffb fW0 flf fCL fSt fv fr : ℝ → ℝ} (hsm : ∀ k, Tracks (sm k) (fsm k) t) (h1 : Tracks fb ffb t) (h2 : Tracks W0 fW0 t)
    (h3 : Tracks lf flf t) (h4 : Tracks CL fCL t) (h5 : Tracks St fSt t) (h6 : Tracks v fv t) (h7 : Tracks rho fr t)
    (h0 : (sumTo ns (fun k => fsm k t) + ffb t + fW0 t) * (gravConstant * flf t) ≠ 0) :
    Tracks (equilibrium ns sm fb W0 lf CL St v rho).1
      (fun s => (equilibrium ns (fun k => fsm k s) (ffb s) (fW0 s) (flf s) (fCL s) (fSt s) (fv s) (fr s)).1) t ∧
    Tracks (equilibrium ns sm fb W0 lf CL St v rho).2
      (fun s => (equilibrium ns (fun k => fsm k s) (ffb s) (fW0 s) (flf s) (fCL s) (fSt s) (fv s) (fr s)).2) t := by
  refine ⟨?_, ?_⟩ <;> simp only [equilibrium, gravConstant] at h0 ⊢ <;> track

theorem centerOfGravity_exact (ns : ℕ) {sm : ℕ → Dual ℝ} {fsm : ℕ → ℝ → ℝ} {cg : ℕ → V3 (Dual ℝ)} {fcg : ℝ → ℕ → V3 ℝ}
    {tw fb W0 lf : Dual ℝ} {ftw ffb fW0 flf : ℝ → ℝ} {ec : V3 (Dual ℝ)} {fec : ℝ → V3 ℝ}
    (hsm : ∀ k, Tracks (sm k) (fsm k) t) (hcg : ∀ k, TracksV (cg k) (fun s => fcg s k) t)
    (h1 : Tracks tw ftw t) (h2 : Tracks fb ffb t) (h3 : Tracks W0 fW0 t) (h4 : Tracks lf flf t) (hec : TracksV ec fec t)
    (hg : gravConstant * flf t ≠ 0) (hd : ftw t / (gravConstant * flf t) - ffb t ≠ 0) :
    TracksV (centerOfGravity ns sm cg tw fb W0 lf ec)
      (fun s => centerOfGravity ns (fun k => fsm k s) (fcg s) (ftw s) (ffb s) (fW0 s) (flf s) (fec s)) t := by
  have hex := hec.x; have hey := hec.y; have hez := hec.z
  simp only [centerOfGravity, gravConstant] at hg hd ⊢; track

/-! ### stress post-processing, section properties, energy -/

theorem failureExact_exact (sigma : ℝ) {vm : Dual ℝ} {fvm : ℝ → ℝ} (h : Tracks vm fvm t) (h0 : sigma ≠ 0) :
    Tracks (failureExact (⟨sigma, 0⟩ : Dual ℝ) vm) (fun s => failureExact sigma (fvm s)) t := by
  simp only [failureExact]; track

theorem energy_exact (n : ℕ) {d l : ℕ → Dual ℝ} {fd fl : ℕ → ℝ → ℝ} (hd : ∀ k, Tracks (d k) (fd k) t)
    (hl : ∀ k, Tracks (l k) (fl k) t) :
    Tracks (energy n d l) (fun s => energy n (fun k => fd k s) (fun k => fl k s)) t := by
  simp only [energy]; track

theorem sectionPropertiesTube_exact {r th : Dual ℝ} {fr fth : ℝ → ℝ} (hr : Tracks r fr t) (hth : Tracks th fth t) :
    Tracks (sectionPropertiesTube r th).1 (fun s => (sectionPropertiesTube (fr s) (fth s)).1) t ∧
    Tracks (sectionPropertiesTube r th).2.1 (fun s => (sectionPropertiesTube (fr s) (fth s)).2.1) t ∧
    Tracks (sectionPropertiesTube r th).2.2.1 (fun s => (sectionPropertiesTube (fr s) (fth s)).2.2.1) t ∧
    Tracks (sectionPropertiesTube r th).2.2.2 (fun s => (sectionPropertiesTube (fr s) (fth s)).2.2.2) t := by
  have h2 : ((2 : ℕ) : ℝ) ≠ 0 := by norm_num
  have h4 : ((4 : ℕ) : ℝ) ≠ 0 := by norm_num
  refine ⟨?_, ?_, ?_, ?_⟩ <;> simp only [sectionPropertiesTube] <;> track

/-! ### Prandtl–Glauert rotations and scalings -/

theorem toWind_exact {a b : Dual ℝ} {fa fb : ℝ → ℝ} {v : V3 (Dual ℝ)} {fv : ℝ → V3 ℝ} (ha : Tracks a fa t)
    (hb : Tracks b fb t) (hv : TracksV v fv t) :
    TracksV (PG.toWind a b v) (fun s => PG.toWind (fa s) (fb s) (fv s)) t := by
  have hx := hv.x; have hy := hv.y; have hz := hv.z
  refine ⟨?_, ?_, ?_⟩ <;> simp only [PG.toWind, PG.tw, M3.mulVec] <;> track

theorem fromWind_exact {a b : Dual ℝ} {fa fb : ℝ → ℝ} {v : V3 (Dual ℝ)} {fv : ℝ → V3 ℝ} (ha : Tracks a fa t)
    (hb : Tracks b fb t) (hv : TracksV v fv t) :
    TracksV (PG.fromWind a b v) (fun s => PG.fromWind (fa s) (fb s) (fv s)) t := by
  have hx := hv.x; have hy := hv.y; have hz := hv.z
  refine ⟨?_, ?_, ?_⟩ <;> simp only [PG.fromWind, PG.transpose, PG.tw, M3.mulVec] <;> track

theorem betaPG_exact {M : Dual ℝ} {fM : ℝ → ℝ} (hM : Tracks M fM t) (h0 : 0 < 1 - fM t * fM t) :
    Tracks (PG.betaPG M) (fun s => PG.betaPG (fM s)) t := by
  simp only [PG.betaPG]; track

theorem unscaleForce_exact {B : Dual ℝ} {fB : ℝ → ℝ} {v : V3 (Dual ℝ)} {fv : ℝ → V3 ℝ} (hB : Tracks B fB t)
    (hv : TracksV v fv t) (h0 : fB t ≠ 0) :
    TracksV (PG.unscaleForce B v) (fun s => PG.unscaleForce (fB s) (fv s)) t := by
  have hx := hv.x; have hy := hv.y; have hz := hv.z
  have h3 := mul_ne_zero (mul_ne_zero h0 h0) h0
  have h4 := mul_ne_zero h3 h0
  refine ⟨?_, ?_, ?_⟩ <;> simp only [PG.unscaleForce] <;> track

end C01AD
end OAS
