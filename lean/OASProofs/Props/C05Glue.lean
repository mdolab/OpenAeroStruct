import OASProofs.Lemmas.Index
import OASProofs.Lemmas.Real

/-!
# C05 / C19 (continued)  The index-bookkeeping components between the modelled cores

Model: `OASModel/Glue.lean` (`mtx_rhs.py`, `solve_matrix.py`, `eval_velocities.py`, `panel_forces_surf.py`): a list of
surfaces enters only through its panel counts `sizes`; the running offsets `ind_1/ind_2` are `offset`, and `locate` maps a
global panel index to (surface, local panel).

* `locate` and `offset` are inverse to each other on the valid ranges (`c19_locate_offset`, `c19_offset_locate`);
* a sum over all global panels is the double sum over surfaces and local panels (`sum_split`);
* **component-level tangency** (`c05_residual_is_normal_velocity`): for *any* influence blocks, normals, onset velocities and
  circulations, the residual that `SolveMatrix` drives to zero with the matrix and right-hand side of `VLMMtxRHSComp` is the
  normal component of the velocity that `EvalVelocities` evaluates from the same blocks. A solved system is therefore exactly
  a tangent flow at every collocation point, whatever the number and order of surfaces.
-/
set_option linter.unusedSectionVars false
set_option linter.unusedSimpArgs false
namespace OAS
namespace C05Glue
open Finset Glue

theorem sumTo_add (n t : ℕ) (f : ℕ → ℝ) : sumTo (n + t) f = sumTo n f + sumTo t (fun i => f (n + i)) := by
  simp only [sumTo_eq_sum]
  exact Finset.sum_range_add f n t

/-- `locate` is a left inverse of `(s, l) ↦ offset s + l` -/
theorem c19_locate_offset (sizes : List ℕ) (s l : ℕ) (hs : s < sizes.length) (hl : l < sizes.getD s 0) :
    locate sizes (offset sizes s + l) = (s, l) :=
  locate_of_mux _ _ _ (Mux.offset_eq_glue sizes s ▸ Mux.locate_offset sizes s l hs hl)

/-- … and a right inverse: every global panel index below the total is `offset s + l` of exactly the pair `locate` returns,
which is a valid (surface, local panel) pair -/
theorem c19_offset_locate (sizes : List ℕ) (m : ℕ) (h : m < total sizes) :
    offset sizes (locate sizes m).1 + (locate sizes m).2 = m ∧ (locate sizes m).1 < sizes.length ∧
      (locate sizes m).2 < sizes.getD (locate sizes m).1 0 := by
  obtain ⟨s, l, h1, h2, h3, h4⟩ := Mux.locate_some sizes m h
  rw [locate_of_mux _ _ _ h1, ← Mux.offset_eq_glue]
  exact ⟨h4, h2, h3⟩

/-- a sum over all panels = the double sum over surfaces and their local panels (the loop structure of every
multi-surface component) -/
theorem sum_split : ∀ (sizes : List ℕ) (f : ℕ → ℝ),
    sumTo (total sizes) f = sumTo sizes.length (fun s => sumTo (sizes.getD s 0) (fun l => f (offset sizes s + l)))
  | [], f => by simp [total, sumTo]
  | n :: rest, f => by
      have ih := sum_split rest (fun i => f (n + i))
      have e : total (n :: rest) = n + total rest := by simp [total]
      rw [e, sumTo_add, ih]
      simp only [sumTo_eq_sum, List.length_cons]
      rw [Finset.sum_range_succ']
      simp only [List.getD_cons_zero, List.getD_cons_succ, offset, Nat.zero_add, Nat.add_assoc]
      ring

/-- `PanelForcesSurf` undoes the stacking of the surfaces: the block of the surface that `locate` names, at the local index it
names, holds panel `m` -/
theorem c19_panel_forces_surf (sizes : List ℕ) (pf : Pts ℝ) (m : ℕ) (h : m < total sizes) :
    panelForcesSurf sizes pf (locate sizes m).1 (locate sizes m).2 = pf m := by
  unfold panelForcesSurf
  rw [(c19_offset_locate sizes m h).1]

/-- … and conversely every entry of every block is a panel of the stacked array -/
theorem c19_panel_forces_surf' (sizes : List ℕ) (pf : Pts ℝ) (s l : ℕ) :
    panelForcesSurf sizes pf s l = pf (offset sizes s + l) := rfl

/-- the same for sums of vectors -/
theorem sum_split_v3 (sizes : List ℕ) (f : ℕ → V3 ℝ) :
    V3.sumTo (total sizes) f = V3.sumTo sizes.length (fun s => V3.sumTo (sizes.getD s 0) (fun l => f (offset sizes s + l))) := by
  ext <;> exact sum_split sizes _

/-- **flattened form of `EvalVelocities`**: the induced velocity is the free stream plus the sum over *global* panels of
circulation times influence column – the partition of the panels into surfaces is immaterial -/
theorem c19_eval_velocity_flat (sizes : List ℕ) (V : ℕ → ℕ → ℕ → V3 ℝ) (fs : Pts ℝ) (γ : ℕ → ℝ) (p : ℕ) :
    evalVelocity sizes V fs γ p = fs p + V3.sumTo (total sizes) (fun m => V3.smul (γ m) (V (locate sizes m).1 p (locate sizes m).2)) := by
  rw [sum_split_v3]
  refine congrArg (fs p + ·) (V3.sumTo_ext _ _ _ fun s hs => V3.sumTo_ext _ _ _ fun l hl => ?_)
  rw [c19_locate_offset sizes s l hs hl]

/-- **component-level tangency identity**: `mtx · Γ − rhs` at row `i` is the normal component, at collocation point `i`, of the
velocity `EvalVelocities` computes from the same influence blocks -/
theorem c05_residual_is_normal_velocity (sizes : List ℕ) (V : ℕ → ℕ → ℕ → V3 ℝ) (nrm : ℕ → ℕ → V3 ℝ) (fs : Pts ℝ) (γ : ℕ → ℝ)
    (i : ℕ) :
    solveResidual (total sizes) (mtxEntry sizes V nrm) (rhsEntry sizes fs nrm) γ i
      = V3.dot (evalVelocity sizes V fs γ i) (stackedNormal sizes nrm i) := by
  rw [c19_eval_velocity_flat, V3.dot_add_left, V3.dot_sumTo_smul_left, add_comm]
  simp only [solveResidual, mtxEntry, rhsEntry, sumTo_eq_sum, sub_neg_eq_add]

/-- a solved system is a tangent flow at the collocation point, and conversely -/
theorem c05_solved_iff_tangent (sizes : List ℕ) (V : ℕ → ℕ → ℕ → V3 ℝ) (nrm : ℕ → ℕ → V3 ℝ) (fs : Pts ℝ) (γ : ℕ → ℝ) (i : ℕ) :
    solveResidual (total sizes) (mtxEntry sizes V nrm) (rhsEntry sizes fs nrm) γ i = 0
      ↔ V3.dot (evalVelocity sizes V fs γ i) (stackedNormal sizes nrm i) = 0 := by
  rw [c05_residual_is_normal_velocity]

/-- `EvalVelocities` is affine in the circulations: the induced part is additive -/
theorem c05_eval_velocity_add (sizes : List ℕ) (V : ℕ → ℕ → ℕ → V3 ℝ) (fs : Pts ℝ) (γ δ : ℕ → ℝ) (p : ℕ) :
    evalVelocity sizes V fs (fun m => γ m + δ m) p + fs p = evalVelocity sizes V fs γ p + evalVelocity sizes V fs δ p := by
  simp only [c19_eval_velocity_flat]
  ext <;> simp only [V3.add_x, V3.add_y, V3.add_z, V3.sumTo_x, V3.sumTo_y, V3.sumTo_z, V3.smul_x, V3.smul_y, V3.smul_z, add_mul,
    Finset.sum_add_distrib] <;> ring

/-- non-vacuity: two surfaces with 2 and 3 panels, panel 3 is local panel 1 of surface 1 -/
example : locate [2, 3] 3 = (1, 1) ∧ offset [2, 3] 1 + 1 = 3 ∧ total [2, 3] = 5 := by decide

end C05Glue
end OAS
