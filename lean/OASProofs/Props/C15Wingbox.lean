import OASProofs.Props.C15
import OASProofs.Lemmas.Norm
import OASProofs.Lemmas.StressCore

/-!
# C15 (continued)  Wingbox stresses vanish for rigid-body motion of the beam

`VonMisesWingbox` recovers four stresses from the axial strain, the twist rate, the two bending curvature
combinations `6u₀ + 2θ₀L − 6u₁ + 4θ₁L` and the shear combination `−12u₀ − 6θ₀L + 12u₁ − 6θ₁L` in the *element*
frame.  For a (linearised) rigid motion `u_j = t + θ × (P_j − c)`, `r_j = θ` all of them vanish identically – for any
element orientation, any section data, any `θ`, `t`, `c` – because the frame is right-handed orthonormal.
-/
set_option linter.unusedSectionVars false
set_option linter.unusedSimpArgs false
namespace OAS
namespace C15
open C01AD

/-- the algebraic core: a frame with `x·x = 1`, `x·y = 0`, `z = x × y`, element vector `P1 − P0 = L x` -/
theorem wingboxRad_rigid (E G L : ℝ) (s : WingboxSec ℝ) (xl yl : V3 ℝ) (P0 c t theta : V3 ℝ)
    (h1 : V3.dot xl xl = 1) (h2 : V3.dot xl yl = 0) :
    let T : M3 ℝ := ⟨xl, yl, V3.cross xl yl⟩
    let P1 := P0 + V3.smul L xl
    wingboxRad E G L s (T.mulVec (t + V3.cross theta (P0 - c))) (T.mulVec theta)
      (T.mulVec (t + V3.cross theta (P1 - c))) (T.mulVec theta) = (0, 0, 0, 0) := by
  intro T P1
  simp only [V3.dot] at h1 h2
  -- the five strain measures vanish
  have hax : (T.mulVec (t + V3.cross theta (P1 - c))).x - (T.mulVec (t + V3.cross theta (P0 - c))).x = 0 := by
    simp only [T, P1, M3.mulVec, V3.add_x, V3.add_y, V3.add_z, V3.sub_x, V3.sub_y, V3.sub_z, V3.cross_x, V3.cross_y,
      V3.cross_z, V3.smul_x, V3.smul_y, V3.smul_z]
    ring
  have hkz : ((6 : ℕ) : ℝ) * (T.mulVec (t + V3.cross theta (P0 - c))).y + ((2 : ℕ) : ℝ) * (T.mulVec theta).z * L
      - ((6 : ℕ) : ℝ) * (T.mulVec (t + V3.cross theta (P1 - c))).y + ((4 : ℕ) : ℝ) * (T.mulVec theta).z * L = 0 := by
    simp only [T, P1, M3.mulVec, V3.add_x, V3.add_y, V3.add_z, V3.sub_x, V3.sub_y, V3.sub_z, V3.cross_x, V3.cross_y,
      V3.cross_z, V3.smul_x, V3.smul_y, V3.smul_z]
    push_cast; ring
  have hky : -((6 : ℕ) : ℝ) * (T.mulVec (t + V3.cross theta (P0 - c))).z + ((2 : ℕ) : ℝ) * (T.mulVec theta).y * L
      + ((6 : ℕ) : ℝ) * (T.mulVec (t + V3.cross theta (P1 - c))).z + ((4 : ℕ) : ℝ) * (T.mulVec theta).y * L = 0 := by
    simp only [T, P1, M3.mulVec, V3.add_x, V3.add_y, V3.add_z, V3.sub_x, V3.sub_y, V3.sub_z, V3.cross_x, V3.cross_y,
      V3.cross_z, V3.smul_x, V3.smul_y, V3.smul_z]
    push_cast
    linear_combination (6 * L * (theta.x * xl.x + theta.y * xl.y + theta.z * xl.z)) * h2
      - (6 * L * (theta.x * yl.x + theta.y * yl.y + theta.z * yl.z)) * h1
  have hvs : -((12 : ℕ) : ℝ) * (T.mulVec (t + V3.cross theta (P0 - c))).y - ((6 : ℕ) : ℝ) * (T.mulVec theta).z * L
      + ((12 : ℕ) : ℝ) * (T.mulVec (t + V3.cross theta (P1 - c))).y - ((6 : ℕ) : ℝ) * (T.mulVec theta).z * L = 0 := by
    simp only [T, P1, M3.mulVec, V3.add_x, V3.add_y, V3.add_z, V3.sub_x, V3.sub_y, V3.sub_z, V3.cross_x, V3.cross_y,
      V3.cross_z, V3.smul_x, V3.smul_y, V3.smul_z]
    push_cast; ring
  simp only [wingboxRad, hax, hkz, hky, hvs, sub_self, mul_zero, zero_mul, zero_div, add_zero, zero_add, neg_zero,
    Prod.mk.injEq]

theorem dot_unit_cross (a b : V3 ℝ) : V3.dot a (V3.unit (V3.cross a b)) = 0 := by
  simp only [V3.unit, V3.dot, V3.cross]
  ring

/-- **the element frame of the stress recovery is right-handed orthonormal** (element of positive length, not parallel
to the global `x` axis): `x·x = 1`, `x·y = 0`, `z = x × y` -/
theorem elemFrame_orthonormal (P0 P1 : V3 ℝ) (hlen : 0 < V3.normSq (P1 - P0))
    (hy : 0 < V3.normSq (V3.cross (V3.unit (P1 - P0)) ⟨1, 0, 0⟩)) :
    V3.dot (elemFrame P0 P1).r0 (elemFrame P0 P1).r0 = 1 ∧ V3.dot (elemFrame P0 P1).r0 (elemFrame P0 P1).r1 = 0 ∧
    (elemFrame P0 P1).r2 = V3.cross (elemFrame P0 P1).r0 (elemFrame P0 P1).r1 := by
  have hx := V3.dot_unit_self (V3.norm_ne_zero hlen)
  have hxy := dot_unit_cross (V3.unit (P1 - P0)) ⟨1, 0, 0⟩
  have hyy := V3.dot_unit_self (V3.norm_ne_zero hy)
  refine ⟨hx, hxy, ?_⟩
  show V3.unit (V3.cross (V3.unit (P1 - P0)) (V3.unit (V3.cross (V3.unit (P1 - P0)) ⟨1, 0, 0⟩)))
      = V3.cross (V3.unit (P1 - P0)) (V3.unit (V3.cross (V3.unit (P1 - P0)) ⟨1, 0, 0⟩))
  set xl := V3.unit (P1 - P0)
  set yl := V3.unit (V3.cross xl ⟨1, 0, 0⟩)
  have hl : V3.normSq (V3.cross xl yl) = 1 := by rw [V3.lagrange, hx, hyy, hxy]; ring
  have hn : V3.norm (V3.cross xl yl) = 1 := by
    rw [show V3.norm (V3.cross xl yl) = Real.sqrt (V3.normSq (V3.cross xl yl)) from rfl, hl, Real.sqrt_one]
  simp only [V3.unit, hn, div_one]

/-- **Rigid-body motion of the beam produces no wingbox stress**, for every element orientation, section and rigid
motion `(t, θ, c)` -/
theorem c15_vm_wingbox_rigid_motion (E G tssf : ℝ) (nodes : Pts ℝ) (sec : ℕ → WingboxSec ℝ) (theta c t : V3 ℝ) (e : ℕ)
    (hlen : 0 < V3.normSq (nodes (e + 1) - nodes e))
    (hy : 0 < V3.normSq (V3.cross (V3.unit (nodes (e + 1) - nodes e)) ⟨1, 0, 0⟩)) :
    vonMisesWingbox E G tssf nodes sec (fun j => ⟨t + V3.cross theta (nodes j - c), theta⟩) e = (0, 0, 0, 0) := by
  obtain ⟨h1, h2, h3⟩ := elemFrame_orthonormal (nodes e) (nodes (e + 1)) hlen hy
  have hL : V3.norm (nodes (e + 1) - nodes e) ≠ 0 := V3.norm_ne_zero hlen
  have hP1 : nodes (e + 1) = nodes e + V3.smul (V3.norm (nodes (e + 1) - nodes e)) (elemFrame (nodes e) (nodes (e + 1))).r0 := by
    show nodes (e + 1) = nodes e + V3.smul (V3.norm (nodes (e + 1) - nodes e)) (V3.unit (nodes (e + 1) - nodes e))
    ext <;> simp only [V3.unit, V3.add_x, V3.add_y, V3.add_z, V3.smul_x, V3.smul_y, V3.smul_z, V3.sub_x, V3.sub_y, V3.sub_z] <;>
      field_simp <;> ring
  have hT : elemFrame (nodes e) (nodes (e + 1))
      = ⟨(elemFrame (nodes e) (nodes (e + 1))).r0, (elemFrame (nodes e) (nodes (e + 1))).r1,
         V3.cross (elemFrame (nodes e) (nodes (e + 1))).r0 (elemFrame (nodes e) (nodes (e + 1))).r1⟩ := by
    rw [← h3]
  have key := wingboxRad_rigid E G (V3.norm (nodes (e + 1) - nodes e)) (sec e) (elemFrame (nodes e) (nodes (e + 1))).r0
    (elemFrame (nodes e) (nodes (e + 1))).r1 (nodes e) c t theta h1 h2
  simp only at key
  rw [← hT, ← hP1] at key
  rw [vonMisesWingbox_core]
  simp only [wingboxCore, key, elem_sqrt, Real.sqrt_zero, zero_div]

/-- non-vacuity: an element along the span direction satisfies the two frame conditions -/
example : let P0 : V3 ℝ := ⟨0, 0, 0⟩; let P1 : V3 ℝ := ⟨0, 2, 0⟩
    0 < V3.normSq (P1 - P0) ∧ 0 < V3.normSq (V3.cross (V3.unit (P1 - P0)) ⟨1, 0, 0⟩) := by
  simp only [V3.normSq, V3.unit, V3.norm, V3.cross, V3.sub_x, V3.sub_y, V3.sub_z, elem_sqrt]
  have : Real.sqrt ((0 - 0) * (0 - 0) + (2 - 0) * (2 - 0) + (0 - 0) * (0 - 0)) = 2 := by
    rw [show ((0:ℝ) - 0) * (0 - 0) + (2 - 0) * (2 - 0) + (0 - 0) * (0 - 0) = 2 ^ 2 by norm_num]
    exact Real.sqrt_sq (by norm_num)
  rw [this]; norm_num

end C15
end OAS
