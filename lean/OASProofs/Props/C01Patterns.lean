import OASProofs.Lemmas.Index
import OASProofs.Lemmas.Real

/-!
# C01 (continued)  Declared sparsity patterns are the Jacobian of the model, for every size

`MonotonicConstraint.setup` declares constant partials through hand-built `rows`, `cols`, `sparse_val` arrays whose sign flip
starts at an index that depends on the parity of `ny`.  `Glue.monoRow/monoCol/monoVal` transliterate those arrays (compared
**exactly** with the arrays the real component declares on every run); the theorem shows that, for every `ny` and both settings of
the symmetry flag, expanding the pattern gives the model output – which is linear in the input – i.e. the declared pattern *is*
the Jacobian of `MonotonicConstraint.compute`: no missing, misplaced or wrong-signed entry for any size or parity.
-/
set_option linter.unusedSectionVars false
set_option linter.unusedSimpArgs false
namespace OAS
namespace C01Patterns
open Finset Glue VLM

/-- the sign flips from row `(ny − 1) / 2` on, whatever the parity of `ny` -/
theorem monoFlipFrom_eq (ny : ℕ) : monoFlipFrom ny = 2 * ((ny - 1) / 2) := by
  unfold monoFlipFrom; split <;> omega

theorem monotonic_eq (ny : ℕ) (sym : Bool) (v : ℕ → ℝ) (i : ℕ) :
    monotonic ny sym v i = (if sym = true ∨ i < (ny - 1) / 2 then 1 else -1) * (v i - v (i + 1)) := by
  simp only [monotonic, Bool.or_eq_true, decide_eq_true_eq]
  split_ifs <;> ring

theorem monoVal_eq (ny : ℕ) (sym : Bool) (k : ℕ) :
    (monoVal ny sym k : ℝ) = (if sym = true ∨ k / 2 < (ny - 1) / 2 then 1 else -1) * (if k % 2 = 0 then 1 else -1) := by
  have h : monoFlipFrom ny ≤ k ↔ ¬ k / 2 < (ny - 1) / 2 := by rw [monoFlipFrom_eq]; omega
  have hb : (!sym && decide (monoFlipFrom ny ≤ k)) = !decide (sym = true ∨ k / 2 < (ny - 1) / 2) := by
    cases sym
    · simp only [Bool.not_false, Bool.true_and, Bool.false_eq_true, false_or]
      rw [decide_eq_decide.2 h, decide_not]
    · simp
  simp only [monoVal, hb, Bool.not_eq_true', decide_eq_false_iff_not, ite_not]
  split_ifs <;> ring

/-- **the declared pattern of `MonotonicConstraint` expands to its output** (hence is its Jacobian, the output being linear):
row `i` of `Σ_k [rows k = i] · val k · v (cols k)` is `monotonic ny sym v i`, for every `ny`, both symmetry settings -/
theorem c01_monotonic_pattern (ny : ℕ) (sym : Bool) (v : ℕ → ℝ) (i : ℕ) (hi : i < ny - 1) :
    monotonic ny sym v i = ∑ k ∈ range (2 * (ny - 1)), if monoRow k = i then monoVal ny sym k * v (monoCol k) else 0 := by
  rw [Nat.mul_comm, sum_range_mul]
  -- entries `2 r` and `2 r + 1` make up row `r`
  have hpair : ∀ r, (∑ j ∈ range 2, if monoRow (r * 2 + j) = i then monoVal ny sym (r * 2 + j) * v (monoCol (r * 2 + j)) else 0)
      = if r = i then monotonic ny sym v r else 0 := by
    intro r
    have d0 : (r * 2 + 0) / 2 = r := idx_div r (by norm_num)
    have d1 : (r * 2 + 1) / 2 = r := idx_div r (by norm_num)
    have c1 : (r * 2 + 1 + 1) / 2 = r + 1 := by omega
    have e0 : (r * 2 + 0) % 2 = 0 := idx_mod r (by norm_num)
    have e1 : (r * 2 + 1) % 2 = 1 := idx_mod r (by norm_num)
    simp only [Finset.sum_range_succ, Finset.sum_range_zero, zero_add, monoRow, monoCol, monoVal_eq, monotonic_eq, d0, d1, c1, e0, e1,
      if_true, one_ne_zero, if_false]
    split_ifs <;> ring
  rw [Finset.sum_congr rfl fun r _ => hpair r, sum_range_ite_eq hi]
/-- every declared entry lies inside the `[ny − 1, ny]` Jacobian -/
theorem c01_monotonic_pattern_in_range (ny k : ℕ) (hk : k < 2 * (ny - 1)) : monoRow k < ny - 1 ∧ monoCol k < ny := by
  unfold monoRow monoCol; omega

/-- no entry is declared twice -/
theorem c01_monotonic_pattern_injective (k k' : ℕ) (h : monoRow k = monoRow k') (h' : monoCol k = monoCol k') : k = k' := by
  unfold monoRow monoCol at *; omega

/-! ### RadiusComp: the declared columns of `d radius / d mesh` are exactly the nodes the radius depends on -/
open Wingbox in
/-- **locality**: the radius of element `j` depends only on the leading- and trailing-edge nodes of stations `j` and `j + 1` -/
theorem c01_radius_local (nx : ℕ) (m m' : Mesh ℝ) (tc : ℕ → ℝ) (j : ℕ)
    (h1 : m 0 j = m' 0 j) (h2 : m 0 (j + 1) = m' 0 (j + 1)) (h3 : m (nx - 1) j = m' (nx - 1) j)
    (h4 : m (nx - 1) (j + 1) = m' (nx - 1) (j + 1)) : radii nx m tc j = radii nx m' tc j := by
  unfold radii streamwiseChord chordLen
  rw [h1, h2, h3, h4]

/-- flattened index of `mesh[i, j, d]` in an `[nx, ny, 3]` array -/
def flat (ny i j d : ℕ) : ℕ := 3 * (i * ny + j) + d

/-- **the declared pattern names exactly those nodes**: entry `k` of row `j` (`k = 6 j + q`, `q < 6`) in the first half is coordinate
`q % 3` of the leading-edge node `j + q / 3`, the same entry in the second half is that coordinate of the trailing-edge node -/
theorem c01_radius_pattern (nx ny j q : ℕ) (hj : j < ny - 1) (hq : q < 6) :
    radRow ny (6 * j + q) = j ∧ radCol nx ny (6 * j + q) = flat ny 0 (j + q / 3) (q % 3) ∧
    radRow ny (6 * (ny - 1) + (6 * j + q)) = j ∧
    radCol nx ny (6 * (ny - 1) + (6 * j + q)) = flat ny (nx - 1) (j + q / 3) (q % 3) := by
  have hlt : 6 * j + q < 6 * (ny - 1) := by omega
  have hm1 : (6 * j + q) % (6 * (ny - 1)) = 6 * j + q := Nat.mod_eq_of_lt hlt
  have hm2 : (6 * (ny - 1) + (6 * j + q)) % (6 * (ny - 1)) = 6 * j + q := by
    rw [Nat.add_mod_left, hm1]
  have hd : (6 * j + q) / 6 = j := by omega
  have hr : (6 * j + q) % 6 = q := by omega
  have hge : ¬ (6 * (ny - 1) + (6 * j + q) < 6 * (ny - 1)) := by omega
  refine ⟨?_, ?_, ?_, ?_⟩
  · simp only [radRow, hm1, hd]
  · simp only [radCol, hm1, hd, hr, hlt, if_true, flat]; omega
  · simp only [radRow, hm2, hd]
  · simp only [radCol, hm2, hd, hr, hge, if_false, flat]
    have : (nx - 1) * 3 * ny = 3 * ((nx - 1) * ny) := by ring
    omega

theorem flat_lt {nx ny i j d : ℕ} (hi : i < nx) (hj : j < ny) (hd : d < 3) : flat ny i j d < 3 * (nx * ny) := by
  have := idx_lt hi hj
  unfold flat; omega

/-- every declared entry is inside the `[ny − 1, 3 nx ny]` Jacobian (for `nx ≥ 1`) -/
theorem c01_radius_pattern_in_range (nx ny j q : ℕ) (hnx : 1 ≤ nx) (hj : j < ny - 1) (hq : q < 6) :
    flat ny 0 (j + q / 3) (q % 3) < 3 * (nx * ny) ∧ flat ny (nx - 1) (j + q / 3) (q % 3) < 3 * (nx * ny) :=
  have hj' : j + q / 3 < ny := by omega
  have hd : q % 3 < 3 := Nat.mod_lt _ (by norm_num)
  ⟨flat_lt (by omega) hj' hd, flat_lt (by omega) hj' hd⟩

/-! ### patterns made of blocks that repeat the same rows: ComputeNodes (2 blocks), CollocationPoints (4 blocks) -/

/-- C-order flattening of an `[nx, ny, 3]` mesh and of an `[ny, 3]` array -/
def meshFlat (ny : ℕ) (m : Mesh ℝ) (idx : ℕ) : ℝ := (m (idx / 3 / ny) (idx / 3 % ny)).get (idx % 3)
def ptsFlat (p : Pts ℝ) (r : ℕ) : ℝ := (p (r / 3)).get (r % 3)

theorem get_add (u v : V3 ℝ) (c : ℕ) : (u + v).get c = u.get c + v.get c := by
  show (V3.add u v).get c = _
  unfold V3.get V3.add
  split_ifs <;> rfl

theorem get_smul (a : ℝ) (u : V3 ℝ) (c : ℕ) : (V3.smul a u).get c = a * u.get c := by
  unfold V3.get V3.smul
  split_ifs <;> rfl

/-- flattened mesh entry of node `(i, j)`, component `c`, `j < ny` -/
theorem meshFlat_node (ny : ℕ) (m : Mesh ℝ) (i j c : ℕ) (hj : j < ny) (hc : c < 3) :
    meshFlat ny m ((i * ny + j) * 3 + c) = (m i j).get c := by
  rw [meshFlat, idx_div _ hc, idx_mod _ hc, idx_div _ hj, idx_mod _ hj]

/-- row `R` of a pattern of `B` blocks of `m` entries each, when every block has entry `r` (and no other) in that row -/
theorem sum_blocks_ite {B m r R : ℕ} (hr : r < m) (row : ℕ → ℕ) (hrow : ∀ b x, x < m → (row (b * m + x) = R ↔ x = r))
    (g : ℕ → ℝ) : (∑ k ∈ range (B * m), if row k = R then g k else 0) = ∑ b ∈ range B, g (b * m + r) := by
  rw [sum_range_mul]
  refine Finset.sum_congr rfl fun b _ => ?_
  rw [← sum_range_ite_eq hr fun x => g (b * m + x)]
  exact Finset.sum_congr rfl fun x hx => if_congr (hrow b x (Finset.mem_range.mp hx)) rfl rfl

/-- **the declared `rows/cols/val` of `ComputeNodes` expand to its output** (hence are its Jacobian, the output being linear in the
mesh): for every `nx`, `ny`, spar location `w` and flattened output index `r` -/
theorem c01_compute_nodes_pattern (nx ny : ℕ) (w : ℝ) (m : Mesh ℝ) (r : ℕ) (hr : r < 3 * ny) :
    ptsFlat (computeNodes nx w m) r =
      ∑ k ∈ range (2 * (3 * ny)), if nodesRow ny k = r then nodesVal ny w k * meshFlat ny m (nodesCol nx ny k) else 0 := by
  have hq : r / 3 < ny := by omega
  have hc : r % 3 < 3 := Nat.mod_lt _ (by norm_num)
  rw [sum_blocks_ite hr (nodesRow ny) fun b x hx => by rw [nodesRow, idx_mod b hx]]
  -- the two columns are the leading- and trailing-edge nodes of station `r / 3`
  have m0 := meshFlat_node ny m 0 (r / 3) (r % 3) hq hc
  have m1 := meshFlat_node ny m (nx - 1) (r / 3) (r % 3) hq hc
  rw [show (0 * ny + r / 3) * 3 + r % 3 = r by omega] at m0
  rw [show ((nx - 1) * ny + r / 3) * 3 + r % 3 = r + (nx - 1) * (3 * ny) by rw [Nat.mul_left_comm]; omega] at m1
  have h1 : ¬ (3 * ny + r < 3 * ny) := by omega
  simp only [Finset.sum_range_succ, Finset.sum_range_zero, zero_add, nodesVal, nodesCol, Nat.zero_mul, Nat.one_mul, hr, h1, if_true, if_false,
    Nat.add_sub_cancel_left, m0, m1]
  unfold ptsFlat computeNodes
  rw [get_add, get_smul, get_smul]

/-- every declared entry lies inside the `[3 ny, 3 nx ny]` Jacobian -/
theorem c01_compute_nodes_pattern_in_range (nx ny k : ℕ) (hx : 1 ≤ nx) (hk : k < 2 * (3 * ny)) :
    nodesRow ny k < 3 * ny ∧ nodesCol nx ny k < nx * (3 * ny) := by
  have hny : 0 < 3 * ny := by omega
  refine ⟨Nat.mod_lt _ hny, ?_⟩
  unfold nodesCol
  obtain ⟨p, rfl⟩ : ∃ p, nx = p + 1 := ⟨nx - 1, by omega⟩
  simp only [Nat.add_sub_cancel, Nat.add_mul, Nat.one_mul]
  split <;> omega


/-- one block of the pattern: entries `b·m … b·m + m − 1` -/
theorem block_sum (m b r : ℕ) (hr : r < m) (g : ℕ → ℕ → ℝ) :
    (∑ x ∈ range m, if x = r then g b x else 0) = g b r :=
  sum_range_ite_eq hr (g b)

/-- **the declared `rows/cols/val` of `CollocationPoints` expand to its three outputs** (hence are their Jacobians, the outputs being
linear in the mesh): for every `nx, ny`, every row offset `off`, every panel `(i, j)` and component `c` -/
theorem c01_collocation_pattern (which : ℕ) (s : Surf ℝ) (off i j c : ℕ) (hi : i < s.nx - 1) (hj : j < s.ny - 1) (hc : c < 3) :
    (if which = 0 then collPt s i j else if which = 1 then forcePt s i j else boundVec s i j).get c =
      ∑ k ∈ range (4 * (3 * ((s.nx - 1) * (s.ny - 1)))),
        if collRow s.nx s.ny off k = off + ((i * (s.ny - 1) + j) * 3 + c) then
          collVal which s.nx s.ny k * meshFlat s.ny s.mesh (collCol s.nx s.ny k) else 0 := by
  have hr : (i * (s.ny - 1) + j) * 3 + c < 3 * ((s.nx - 1) * (s.ny - 1)) := by
    have := idx_lt hi hj; omega
  have hjy : j < s.ny := by omega
  have hjy1 : j + 1 < s.ny := by omega
  rw [sum_blocks_ite hr (collRow s.nx s.ny off) fun b x hx => by rw [collRow, idx_mod b hx]; omega]
  -- block `b` holds corner node `(i + b % 2, j + b / 2)` of panel `(i, j)`
  simp only [Finset.sum_range_succ, Finset.sum_range_zero, zero_add, collCol, collVal, idx_div _ hr, idx_mod _ hr, idx_div _ hc,
    idx_mod _ hc, idx_div _ hj, idx_mod _ hj, Nat.reduceMod, Nat.reduceLeDiff, Nat.reduceEqDiff, if_true, if_false, Nat.add_zero,
    meshFlat_node s.ny s.mesh _ _ c hjy hc, meshFlat_node s.ny s.mesh _ _ c hjy1 hc]
  unfold collPt forcePt boundVec
  split_ifs <;> simp only [get_add, get_smul]

end C01Patterns
end OAS
