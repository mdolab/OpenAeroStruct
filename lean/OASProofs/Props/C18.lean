import OASProofs.Lemmas.Basic
import OASProofs.Lemmas.Real
import OASProofs.Lemmas.Dec

/-!
# C18  Viscous and wave drag estimates are well-behaved and discretisation-consistent

Model: `OASModel/AeroFunc.lean` (`WaveDrag`, `ViscousDrag`).  Statements over ℝ.
-/
set_option linter.unusedSectionVars false
set_option linter.unusedSimpArgs false
namespace OAS
namespace C18
open Finset

/-- the results of a symmetric surface are those of its half, doubled -/
theorem sym_double (sym : Bool) (c : ℝ) : (if sym then c * ((2 : ℕ) : ℝ) else c) = (if sym then 2 else 1) * c := by
  cases sym <;> simp [mul_comm]

theorem symFactor_pos (sym : Bool) : (0 : ℝ) < if sym then 2 else 1 := by
  cases sym <;> simp

/-! ### switched off ⇒ exactly zero -/

theorem c18_wave_off (ny : ℕ) (sym : Bool) (ka M CL : ℝ) (toc w l c : ℕ → ℝ) :
    WaveDrag.cdw ny false sym ka M CL toc w l c = 0 := by simp [WaveDrag.cdw]

theorem c18_viscous_off (ny : ℕ) (sym : Bool) (klam cmaxt re M S : ℝ) (w l len toc : ℕ → ℝ) :
    ViscousDrag.cdv ny false sym klam cmaxt re M S w l len toc = 0 := by simp [ViscousDrag.cdv]

/-! ### wave drag -/

/-- the Korn/Lock shape as a function of the Mach margin `d = M − Mcrit` -/
noncomputable def lock (d : ℝ) : ℝ := if 0 < d then 20 * d ^ 4 else 0

theorem lock_nonneg (d : ℝ) : 0 ≤ lock d := by unfold lock; split_ifs with h <;> positivity

theorem lock_mono {d1 d2 : ℝ} (h : d1 ≤ d2) : lock d1 ≤ lock d2 := by
  by_cases h1 : 0 < d1
  · rw [lock, lock, if_pos h1, if_pos (h1.trans_le h)]
    exact mul_le_mul_of_nonneg_left (pow_le_pow_left₀ h1.le h 4) (by norm_num)
  · rw [lock, if_neg h1]; exact lock_nonneg d2

/-- **Wave drag as a function of the margin**: `CDw = (2 if symmetric) · lock(M − Mcrit)`, i.e. zero up
to the crest-critical Mach number and `20 (M − Mcrit)^4` beyond. -/
theorem c18_wave_form (ny : ℕ) (sym : Bool) (ka M CL : ℝ) (toc w l c : ℕ → ℝ) :
    WaveDrag.cdw ny true sym ka M CL toc w l c
      = (if sym then 2 else 1) * lock (M - WaveDrag.mcrit ny ka CL toc w l c) := by
  unfold WaveDrag.cdw lock
  simp only [if_true, sub_pos, sym_double]
  congr 2
  push_cast; ring

theorem c18_wave_zero_below (ny : ℕ) (sym : Bool) (ka M CL : ℝ) (toc w l c : ℕ → ℝ)
    (h : M ≤ WaveDrag.mcrit ny ka CL toc w l c) : WaveDrag.cdw ny true sym ka M CL toc w l c = 0 := by
  rw [c18_wave_form, lock, if_neg (not_lt.mpr (sub_nonpos.mpr h)), mul_zero]

/-- **Wave drag grows monotonically with Mach number.** -/
theorem c18_wave_mono_M (ny : ℕ) (sym : Bool) (ka M1 M2 CL : ℝ) (toc w l c : ℕ → ℝ) (h : M1 ≤ M2) :
    WaveDrag.cdw ny true sym ka M1 CL toc w l c ≤ WaveDrag.cdw ny true sym ka M2 CL toc w l c := by
  rw [c18_wave_form, c18_wave_form]
  exact mul_le_mul_of_nonneg_left (lock_mono (sub_le_sub_right h _)) (symFactor_pos sym).le

/-- area-weighted average cosine of the quarter-chord sweep used by `WaveDrag` -/
noncomputable def avgCos (ny : ℕ) (w l c : ℕ → ℝ) : ℝ :=
  sumTo (ny - 1) (fun j => w j / l j * WaveDrag.panelArea c w j) / sumTo (ny - 1) (WaveDrag.panelArea c w)

/-- the crest-critical Mach number decreases with lift (for positive average sweep cosine) -/
theorem mcrit_anti_CL (ny : ℕ) (ka CL1 CL2 : ℝ) (toc w l c : ℕ → ℝ) (hc : 0 < avgCos ny w l c) (h : CL1 ≤ CL2) :
    WaveDrag.mcrit ny ka CL2 toc w l c ≤ WaveDrag.mcrit ny ka CL1 toc w l c := by
  have hden : 0 < ((10 : ℕ) : ℝ) * (avgCos ny w l c * avgCos ny w l c * avgCos ny w l c) := by positivity
  exact sub_le_sub_right (sub_le_sub_left (div_le_div_of_nonneg_right h hden.le) _) _

/-- **Wave drag grows monotonically with lift.** -/
theorem c18_wave_mono_CL (ny : ℕ) (sym : Bool) (ka M CL1 CL2 : ℝ) (toc w l c : ℕ → ℝ)
    (hc : 0 < avgCos ny w l c) (h : CL1 ≤ CL2) :
    WaveDrag.cdw ny true sym ka M CL1 toc w l c ≤ WaveDrag.cdw ny true sym ka M CL2 toc w l c := by
  rw [c18_wave_form, c18_wave_form]
  exact mul_le_mul_of_nonneg_left (lock_mono (sub_le_sub_left (mcrit_anti_CL ny ka CL1 CL2 toc w l c hc h) _))
    (symFactor_pos sym).le

/-- **Partition independence of the wave drag**: for constant sweep cosine `r` and constant `t/c`
the area-weighted averages are `r` and `t`, so `Mcrit` (hence `CDw`) does not depend on how the
span is divided into panels, nor on the chords. -/
theorem c18_wave_partition (ny : ℕ) (ka CL r t : ℝ) (toc w l c : ℕ → ℝ)
    (hr : ∀ j, w j / l j = r) (ht : ∀ j, toc j = t) (hA : sumTo (ny - 1) (WaveDrag.panelArea c w) ≠ 0) :
    WaveDrag.mcrit ny ka CL toc w l c
      = ka / r - t / (r * r) - CL / (((10 : ℕ) : ℝ) * (r * r * r))
        - Elem.rpow (dec 1 10 / ((80 : ℕ) : ℝ)) (1 / ((3 : ℕ) : ℝ)) := by
  unfold WaveDrag.mcrit
  simp only [hr, ht, sumTo_eq_sum, ← Finset.mul_sum]
  rw [mul_div_assoc, mul_div_assoc, div_self (by simpa [sumTo_eq_sum] using hA), mul_one, mul_one]

/-! ### viscous drag -/

theorem log10_pos {x : ℝ} (h : 1 < x) : 0 < ViscousDrag.log10 x :=
  div_pos (Real.log_pos h) (Real.log_pos (by norm_num))

theorem log10_mono {x y : ℝ} (hx : 0 < x) (h : x ≤ y) : ViscousDrag.log10 x ≤ ViscousDrag.log10 y :=
  div_le_div_of_nonneg_right (Real.log_le_log hx h) (Real.log_pos (by norm_num)).le

theorem machFactor_pos (M : ℝ) : 0 < Elem.rpow (1 + dec 144 1000 * (M * M)) (dec 65 100 : ℝ) :=
  Real.rpow_pos_of_pos (add_pos_of_pos_of_nonneg one_pos (mul_nonneg (dec_nonneg _ _) (mul_self_nonneg M))) _

/-- **Turbulent skin friction is positive** for chord Reynolds numbers above 1. -/
theorem cfTurb_pos {Re : ℝ} (M : ℝ) (h : 1 < Re) : 0 < ViscousDrag.cfTurb Re M :=
  div_pos (div_pos dec_pos (Real.rpow_pos_of_pos (log10_pos h) _)) (machFactor_pos M)

/-- **… and decreases with Reynolds number.** -/
theorem cfTurb_anti {Re1 Re2 : ℝ} (M : ℝ) (h1 : 1 < Re1) (h : Re1 ≤ Re2) :
    ViscousDrag.cfTurb Re2 M ≤ ViscousDrag.cfTurb Re1 M :=
  have hl := log10_pos h1
  div_le_div_of_nonneg_right
    (div_le_div_of_nonneg_left (dec_nonneg _ _) (Real.rpow_pos_of_pos hl _)
      (Real.rpow_le_rpow hl.le (log10_mono (one_pos.trans h1) h) (dec_nonneg _ _)))
    (machFactor_pos M).le

/-- **Laminar skin friction is positive and decreases with Reynolds number.** -/
theorem cfLam_pos {Re : ℝ} (h : 0 < Re) : 0 < ViscousDrag.cfLam Re :=
  div_pos dec_pos (Real.sqrt_pos.mpr h)

theorem cfLam_anti {Re1 Re2 : ℝ} (h1 : 0 < Re1) (h : Re1 ≤ Re2) : ViscousDrag.cfLam Re2 ≤ ViscousDrag.cfLam Re1 :=
  div_le_div_of_nonneg_left (dec_nonneg _ _) (Real.sqrt_pos.mpr h1) (Real.sqrt_le_sqrt h)

/-- fully turbulent section coefficient (`k_lam = 0`) -/
theorem cd_turbulent (Rec M : ℝ) : ViscousDrag.cd 0 Rec M = ViscousDrag.cfTurb Rec M := by
  simp [ViscousDrag.cd]

/-- fully laminar section coefficient (`k_lam = 1`) -/
theorem cd_laminar (Rec M : ℝ) : ViscousDrag.cd 1 Rec M = ViscousDrag.cfLam Rec := by
  simp [ViscousDrag.cd]

/-- the thickness polynomial `1 + 0.6 (t/c)/(x/c)ₘ + 100 (t/c)⁴` of the form factor increases with `t/c ≥ 0` … -/
theorem thickness_mono {cmaxt t1 t2 : ℝ} (hc : 0 < cmaxt) (ht : 0 ≤ t1) (h : t1 ≤ t2) :
    1 + dec 6 10 * t1 / cmaxt + ((100 : ℕ) : ℝ) * (t1 * t1 * t1 * t1)
      ≤ 1 + dec 6 10 * t2 / cmaxt + ((100 : ℕ) : ℝ) * (t2 * t2 * t2 * t2) := by
  have h4 : t1 * t1 * t1 * t1 ≤ t2 * t2 * t2 * t2 := by
    simpa only [pow_succ, pow_zero, one_mul] using pow_le_pow_left₀ ht h 4
  exact add_le_add
    (add_le_add_right (div_le_div_of_nonneg_right (mul_le_mul_of_nonneg_left h (dec_nonneg _ _)) hc.le) 1)
    (mul_le_mul_of_nonneg_left h4 (Nat.cast_nonneg _))

/-- … from the value 1 at zero thickness -/
theorem thickness_pos {cmaxt t : ℝ} (hc : 0 < cmaxt) (ht : 0 ≤ t) :
    0 < 1 + dec 6 10 * t / cmaxt + ((100 : ℕ) : ℝ) * (t * t * t * t) :=
  lt_of_lt_of_le (by simp) (thickness_mono hc le_rfl ht)

/-- the form factor is positive and increases with thickness ratio -/
theorem formFactor_pos {cmaxt M toc cs : ℝ} (hc : 0 < cmaxt) (hM : 0 < M) (ht : 0 ≤ toc) (hs : 0 < cs) :
    0 < ViscousDrag.formFactor cmaxt M toc cs :=
  mul_pos (mul_pos (mul_pos dec_pos (Real.rpow_pos_of_pos hM _)) (thickness_pos hc ht))
    (Real.rpow_pos_of_pos hs _)

theorem formFactor_mono {cmaxt M t1 t2 cs : ℝ} (hc : 0 < cmaxt) (hM : 0 < M) (ht : 0 ≤ t1) (h : t1 ≤ t2) (hs : 0 < cs) :
    ViscousDrag.formFactor cmaxt M t1 cs ≤ ViscousDrag.formFactor cmaxt M t2 cs :=
  mul_le_mul_of_nonneg_right
    (mul_le_mul_of_nonneg_left (thickness_mono hc ht h) (mul_pos dec_pos (Real.rpow_pos_of_pos hM _)).le)
    (Real.rpow_pos_of_pos hs _).le

/-- `ViscousDrag.compute` switched on: the spanwise sum of the section drags over the reference area, doubled for a symmetric surface -/
theorem cdv_on (ny : ℕ) (sym : Bool) (klam cmaxt re M S : ℝ) (w l len toc : ℕ → ℝ) :
    ViscousDrag.cdv ny true sym klam cmaxt re M S w l len toc
      = (if sym then 2 else 1) * ((∑ j ∈ range (ny - 1),
          ((2 : ℕ) : ℝ) * ViscousDrag.cd klam (re * ((len (j + 1) + len j) / ((2 : ℕ) : ℝ))) M
            * ((len (j + 1) + len j) / ((2 : ℕ) : ℝ)) * w j * ViscousDrag.formFactor cmaxt M (toc j) (w j / l j)) / S) := by
  simp only [ViscousDrag.cdv, if_true, sym_double, sumTo_eq_sum]

/-- **Partition independence of the viscous drag**: for equal edge lengths `c` (constant chord),
constant sweep cosine `r` and constant `t/c = t`, `CDv` depends on the panel widths only through
their sum (the span), hence not on the number or distribution of spanwise panels. -/
theorem c18_viscous_partition (ny : ℕ) (sym : Bool) (klam cmaxt re M S c r t : ℝ) (w l len toc : ℕ → ℝ)
    (hl : ∀ j, len j = c) (hr : ∀ j, w j / l j = r) (ht : ∀ j, toc j = t) :
    ViscousDrag.cdv ny true sym klam cmaxt re M S w l len toc
      = (if sym then 2 else 1)
        * (2 * ViscousDrag.cd klam (re * c) M * c * ViscousDrag.formFactor cmaxt M t r)
        * (∑ j ∈ range (ny - 1), w j) / S := by
  have hc : ∀ j, (len (j + 1) + len j) / ((2 : ℕ) : ℝ) = c := fun j => by rw [hl, hl]; push_cast; ring
  have : ∑ j ∈ range (ny - 1), ((2 : ℕ) : ℝ) * ViscousDrag.cd klam (re * c) M * c * w j * ViscousDrag.formFactor cmaxt M t r
      = 2 * ViscousDrag.cd klam (re * c) M * c * ViscousDrag.formFactor cmaxt M t r * ∑ j ∈ range (ny - 1), w j := by
    rw [Finset.mul_sum]; exact Finset.sum_congr rfl fun j _ => by push_cast; ring
  simp only [cdv_on, hc, hr, ht, this]
  ring

/-- **Viscous drag is positive** for a fully turbulent surface (`k_lam = 0`) with chord Reynolds
numbers above 1, positive widths, reference area, Mach number and sweep cosines. -/
theorem c18_viscous_pos_turbulent (n : ℕ) (sym : Bool) (cmaxt re M S : ℝ) (w l len toc : ℕ → ℝ)
    (hc : 0 < cmaxt) (hM : 0 < M) (hS : 0 < S)
    (hRe : ∀ j, 1 < re * ((len (j + 1) + len j) / ((2 : ℕ) : ℝ))) (hch : ∀ j, 0 < (len (j + 1) + len j) / ((2 : ℕ) : ℝ))
    (hw : ∀ j, 0 < w j) (hl : ∀ j, 0 < l j) (ht : ∀ j, 0 ≤ toc j) :
    0 < ViscousDrag.cdv (n + 2) true sym 0 cmaxt re M S w l len toc := by
  rw [cdv_on]
  refine mul_pos (symFactor_pos sym) (div_pos (Finset.sum_pos (fun j _ => ?_) (by simp)) hS)
  rw [cd_turbulent]
  exact mul_pos (mul_pos (mul_pos (mul_pos (by norm_num) (cfTurb_pos M (hRe j))) (hch j)) (hw j))
    (formFactor_pos hc hM (ht j) (div_pos (hw j) (hl j)))

end C18
end OAS
