import OASProofs.Lemmas.Kernel
import OASProofs.Lemmas.Perm
import OASProofs.Lemmas.Index

/-!
# C19  Composition of surfaces and wrappers does not change the physics

Model: `OASModel/PG.lean` (`Mux`: `mphys/utils.py`, `demux_surface_mesh.py`, `mux_surface_forces.py`) and
`OASModel/VLM.lean` (global panel numbering of a surface list).
-/
set_option linter.unusedSectionVars false
set_option linter.unusedSimpArgs false
namespace OAS
namespace C19
open Finset

/-! ### (de)multiplexers are exact inverse permutations -/

/-- size of surface `s` (0 beyond the list) -/
def sizeOf (sz : List ℕ) (s : ℕ) : ℕ := sz.getD s 0

/-- **demux ∘ mux = id**: every surface gets back exactly its own array -/
theorem c19_demux_mux (sz : List ℕ) (parts : ℕ → ℕ → ℝ) (s k : ℕ) (hs : s < sz.length) (hk : k < sizeOf sz s) :
    Mux.demux sz (Mux.mux sz parts) s k = parts s k := by
  simp only [Mux.demux, Mux.mux, Mux.locate_offset sz s k hs hk]

/-- **mux ∘ demux = id** on the flat array -/
theorem c19_mux_demux (sz : List ℕ) (flat : ℕ → ℝ) (g : ℕ) (hg : g < Mux.total sz) :
    Mux.mux sz (Mux.demux sz flat) g = flat g := by
  obtain ⟨s, k, h1, _, _, h4⟩ := Mux.locate_some sz g hg
  simp only [Mux.mux, Mux.demux, h1, h4]

/-- the index map `(s, k) ↦ offset s + k` is injective: no two entries share a slot of the flat array -/
theorem c19_indices_injective (sz : List ℕ) (s k s' k' : ℕ) (hs : s < sz.length) (hk : k < sizeOf sz s)
    (hs' : s' < sz.length) (hk' : k' < sizeOf sz s') (h : Mux.offset sz s + k = Mux.offset sz s' + k') :
    s = s' ∧ k = k' := by
  have h1 := Mux.locate_offset sz s k hs hk
  rw [h, Mux.locate_offset sz s' k' hs' hk'] at h1
  exact Prod.mk.inj (Option.some.inj h1).symm

/-- **adjoint consistency of the matrix-free products** (`compute_jacvec_product` fwd / rev):
`⟨demux v, w⟩ = ⟨v, mux w⟩`, the reverse-mode product of the demultiplexer is the multiplexer and vice
versa (single surface block; the general case is the sum over the surfaces) -/
theorem c19_adjoint_block (n off : ℕ) (v : ℕ → ℝ) (w : ℕ → ℝ) :
    ∑ k ∈ range n, v (off + k) * w k = ∑ g ∈ Finset.Ico off (off + n), v g * w (g - off) := by
  rw [Finset.sum_Ico_eq_sum_range]
  simp

/-! ### global panel numbering of a surface list -/
open VLM

/-- the first surface occupies the first `npanels` unknowns, the remaining ones follow with the same
numbering they would have on their own: blocks of the assembled system are attached to surfaces, not to
positions in the list -/
theorem c19_locate_head (s : Surf ℝ) (rest : List (Surf ℝ)) (m : ℕ) (h : m < s.npanels) :
    locate (s :: rest) m = some (s, m / (s.ny - 1), m % (s.ny - 1)) := by
  simp [locate, h]

theorem c19_locate_tail (s : Surf ℝ) (rest : List (Surf ℝ)) (m : ℕ) :
    locate (s :: rest) (s.npanels + m) = locate rest m := by
  simp [locate]

/-- total number of unknowns is independent of the order of the surfaces -/
theorem c19_total_perm (l l' : List (Surf ℝ)) (h : l.Perm l') : totalPanels l = totalPanels l' := by
  unfold totalPanels
  exact (h.map _).sum_eq

/-- **Splitting a lattice at a spanwise column yields the same rings**: ring `(i, j)` of the part that
starts at column `c0` is ring `(i, c0 + j)` of the whole lattice (same corner points, same induced velocity). -/
theorem c19_split_ring (vm : Mesh ℝ) (c0 : ℕ) (p : V3 ℝ) (i j : ℕ) :
    ring (fun a b => vm a (c0 + b)) p i j = ring vm p i (c0 + j) := by
  simp [ring, Nat.add_assoc]

theorem c19_split_lattice (nx : ℕ) (u : V3 ℝ) (vm : Mesh ℝ) (c0 : ℕ) (p : V3 ℝ) (i j : ℕ) :
    latticeVel nx u (fun a b => vm a (c0 + b)) 0 p i j = latticeVel nx u vm 0 p i (c0 + j) := by
  simp [latticeVel, ring, trailing, Nat.add_assoc]

/-! ### the order of the surfaces is a re-numbering of the unknowns, nothing else -/

/-- the linear system of the surface list `l` (any number and sizes of surfaces): `Σₙ mtx[m,n] Γₙ = rhs[m]` -/
def Solves (l : List (Surf ℝ)) (f : Flow ℝ) (gamma : ℕ → ℝ) : Prop :=
  ∀ m, m < totalPanels l → ∑ n ∈ range (totalPanels l), aic l f m n * gamma n = rhs l f m

/-- **Results do not depend on the order in which the surfaces are listed.**  For every permutation `l'` of the
surface list `l` there is a bijection `σ` (inverse `τ`) of the global panel indices such that panel `σ m` of `l'`
is the same panel `(surface, i, j)` as panel `m` of `l`, and, in that numbering: the influence matrices and the
right-hand sides agree entry by entry; circulations solve one system iff the re-numbered circulations solve the
other; and every panel of every surface receives the same force (ground effect, symmetry flags, rotation rates
and sideslip all allowed). -/
theorem c19_order_independent {l l' : List (Surf ℝ)} (hp : l.Perm l') (f : Flow ℝ) :
    ∃ σ τ : ℕ → ℕ, (∀ m, τ (σ m) = m) ∧ (∀ m, σ (τ m) = m) ∧
      (∀ m, locate l' (σ m) = locate l m) ∧
      (∀ m n, aic l' f (σ m) (σ n) = aic l f m n) ∧
      (∀ m, rhs l' f (σ m) = rhs l f m) ∧
      (∀ gamma, Solves l f gamma → Solves l' f (fun k => gamma (τ k))) ∧
      (∀ gamma m, panelForce l' f (fun k => gamma (τ k)) (σ m) = panelForce l f gamma m) := by
  obtain ⟨σ, τ, h⟩ := renum_of_perm hp
  obtain ⟨haic, hrhs, hforce⟩ := h.system f
  exact ⟨σ, τ, h.left, h.right, h.loc, haic, hrhs, fun gamma hs => h.solves haic hrhs gamma hs, hforce⟩

/-- instance: exchanging two surfaces -/
theorem c19_swap_two (a b : Surf ℝ) (f : Flow ℝ) (gamma : ℕ → ℝ) (hs : Solves [a, b] f gamma) :
    ∃ σ τ : ℕ → ℕ, Solves [b, a] f (fun k => gamma (τ k)) ∧
      ∀ m, panelForce [b, a] f (fun k => gamma (τ k)) (σ m) = panelForce [a, b] f gamma m := by
  obtain ⟨σ, τ, _, _, _, _, _, h6, h7⟩ := c19_order_independent (List.Perm.swap b a []) f
  exact ⟨σ, τ, h6 gamma hs, h7 gamma⟩

end C19
end OAS
