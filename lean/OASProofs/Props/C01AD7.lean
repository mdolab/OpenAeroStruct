import OASProofs.Props.C01AD5

/-!
# C01 (continued)  Exactness of the derivative oracle: glue components, wingbox section properties and geometry

`OASModel/Glue.lean` (`mtx_rhs.py`, `solve_matrix.py` residual, `eval_velocities.py`, `get_vectors.py`,
`monotonic_constraint.py`, `multipoint_comps.py`) and `OASModel/Wingbox.lean` (`section_properties_wingbox.py`,
`wingbox_geometry.py`, `radius_comp.py`, `spar_within_wing.py`, `fuel_vol.py`).
-/
set_option linter.unusedSectionVars false
set_option linter.unusedSimpArgs false
set_option linter.unusedTactic false
set_option linter.unreachableTactic false
set_option linter.unusedVariables false
namespace OAS
namespace C01AD
open AD

variable {t : ℝ}

/-! ### glue components -/

/-- `SolveMatrix.apply_nonlinear`, w.r.t. matrix, right-hand side and circulations (the three blocks of `linearize`) -/
theorem solveResidual_exact (n : ℕ) {A : ℕ → ℕ → Dual ℝ} {fA : ℝ → ℕ → ℕ → ℝ} {b g : ℕ → Dual ℝ} {fb fg : ℝ → ℕ → ℝ}
    (hA : ∀ i j, Tracks (A i j) (fun s => fA s i j) t) (hb : ∀ i, Tracks (b i) (fun s => fb s i) t)
    (hg : ∀ i, Tracks (g i) (fun s => fg s i) t) (i : ℕ) :
    Tracks (Glue.solveResidual n A b g i) (fun s => Glue.solveResidual n (fA s) (fb s) (fg s) i) t := by
  unfold Glue.solveResidual; track

/-- `VLMMtxRHSComp`: one matrix entry, w.r.t. the influence blocks and the normals of every surface -/
theorem mtxEntry_exact (sizes : List ℕ) {V : ℕ → ℕ → ℕ → V3 (Dual ℝ)} {fV : ℝ → ℕ → ℕ → ℕ → V3 ℝ}
    {N : ℕ → ℕ → V3 (Dual ℝ)} {fN : ℝ → ℕ → ℕ → V3 ℝ}
    (hV : ∀ s p l, TracksV (V s p l) (fun x => fV x s p l) t) (hN : ∀ s l, TracksV (N s l) (fun x => fN x s l) t) (i j : ℕ) :
    Tracks (Glue.mtxEntry sizes V N i j) (fun x => Glue.mtxEntry sizes (fV x) (fN x) i j) t := by
  unfold Glue.mtxEntry Glue.stackedNormal; track

/-- `VLMMtxRHSComp`: one right-hand-side entry -/
theorem rhsEntry_exact (sizes : List ℕ) {F : Pts (Dual ℝ)} {fF : ℝ → Pts ℝ} {N : ℕ → ℕ → V3 (Dual ℝ)} {fN : ℝ → ℕ → ℕ → V3 ℝ}
    (hF : ∀ i, TracksV (F i) (fun x => fF x i) t) (hN : ∀ s l, TracksV (N s l) (fun x => fN x s l) t) (i : ℕ) :
    Tracks (Glue.rhsEntry sizes F N i) (fun x => Glue.rhsEntry sizes (fF x) (fN x) i) t := by
  unfold Glue.rhsEntry Glue.stackedNormal; track

/-- `EvalVelocities`, w.r.t. free stream, circulations and the influence blocks of every surface -/
theorem evalVelocity_exact (sizes : List ℕ) {V : ℕ → ℕ → ℕ → V3 (Dual ℝ)} {fV : ℝ → ℕ → ℕ → ℕ → V3 ℝ}
    {F : Pts (Dual ℝ)} {fF : ℝ → Pts ℝ} {g : ℕ → Dual ℝ} {fg : ℝ → ℕ → ℝ}
    (hV : ∀ s p l, TracksV (V s p l) (fun x => fV x s p l) t) (hF : ∀ i, TracksV (F i) (fun x => fF x i) t)
    (hg : ∀ i, Tracks (g i) (fun s => fg s i) t) (p : ℕ) :
    TracksV (Glue.evalVelocity sizes V F g p) (fun x => Glue.evalVelocity sizes (fV x) (fF x) (fg x) p) t := by
  unfold Glue.evalVelocity; track

/-- `GetVectors` -/
theorem getVector_exact {E : Pts (Dual ℝ)} {fE : ℝ → Pts ℝ} {M : Mesh (Dual ℝ)} {fM : ℝ → Mesh ℝ}
    (hE : ∀ p, TracksV (E p) (fun x => fE x p) t) (hM : ∀ i j, TracksV (M i j) (fun x => fM x i j) t) (p i j : ℕ) :
    TracksV (Glue.getVector E M p i j) (fun x => Glue.getVector (fE x) (fM x) p i j) t := by
  unfold Glue.getVector; track

/-- `MonotonicConstraint` (the branch is decided by indices and the symmetry option) -/
theorem monotonic_exact (ny : ℕ) (sym : Bool) {v : ℕ → Dual ℝ} {fv : ℝ → ℕ → ℝ} (hv : ∀ i, Tracks (v i) (fun s => fv s i) t) (i : ℕ) :
    Tracks (Glue.monotonic ny sym v i) (fun s => Glue.monotonic ny sym (fv s) i) t := by
  unfold Glue.monotonic
  split <;> track

/-- `MultiCD` -/
theorem multiCD_exact (n : ℕ) {c : ℕ → Dual ℝ} {fc : ℝ → ℕ → ℝ} (hc : ∀ i, Tracks (c i) (fun s => fc s i) t) :
    Tracks (Glue.multiCD n c) (fun s => Glue.multiCD n (fc s)) t := by
  unfold Glue.multiCD; track

/-- `Disp` is a re-indexing -/
theorem disp_exact {d : ℕ → Dual ℝ} {fd : ℝ → ℕ → ℝ} (hd : ∀ i, Tracks (d i) (fun s => fd s i) t) (j k : ℕ) :
    Tracks (Glue.disp d j k) (fun s => Glue.disp (fd s) j k) t := hd _

/-! ### wingbox cross-section -/
open Wingbox

/-- an airfoil whose four coordinate arrays are tracked -/
def TracksAF (a : Airfoil (Dual ℝ)) (f : ℝ → Airfoil ℝ) (t : ℝ) : Prop :=
  (∀ i, Tracks (a.xu i) (fun s => (f s).xu i) t) ∧ (∀ i, Tracks (a.yu i) (fun s => (f s).yu i) t) ∧
  (∀ i, Tracks (a.xl i) (fun s => (f s).xl i) t) ∧ (∀ i, Tracks (a.yl i) (fun s => (f s).yl i) t)

/-- constant airfoil data of the surface dictionary -/
def constAF (af : Airfoil ℝ) : Airfoil (Dual ℝ) :=
  ⟨fun i => ⟨af.xu i, 0⟩, fun i => ⟨af.yu i, 0⟩, fun i => ⟨af.xl i, 0⟩, fun i => ⟨af.yl i, 0⟩⟩

theorem constAF_tracks (af : Airfoil ℝ) : TracksAF (constAF af) (fun _ => af) t :=
  ⟨fun _ => Tracks.const _, fun _ => Tracks.const _, fun _ => Tracks.const _, fun _ => Tracks.const _⟩

/-- chord and `t/c` scaling of the airfoil data, w.r.t. `fem_chords`, `t_over_c`, `streamwise_chords` -/
theorem scaled_exact {a : Airfoil (Dual ℝ)} {fa : ℝ → Airfoil ℝ} (ha : TracksAF a fa t) (tc0 : ℝ) {c tc sc : Dual ℝ}
    {fc ftc fsc : ℝ → ℝ} (hc : Tracks c fc t) (htc : Tracks tc ftc t) (hsc : Tracks sc fsc t) (h0 : tc0 ≠ 0) (hc0 : fc t ≠ 0) :
    TracksAF (scaled a c tc (⟨tc0, 0⟩ : Dual ℝ) sc) (fun s => scaled (fa s) (fc s) (ftc s) tc0 (fsc s)) t := by
  obtain ⟨h1, h2, h3, h4⟩ := ha
  refine ⟨fun i => ?_, fun i => ?_, fun i => ?_, fun i => ?_⟩ <;> simp only [scaled] <;> track

/-- rotation by the element twist -/
theorem rotated_exact {a : Airfoil (Dual ℝ)} {fa : ℝ → Airfoil ℝ} (ha : TracksAF a fa t) {th : Dual ℝ} {fth : ℝ → ℝ}
    (hth : Tracks th fth t) : TracksAF (rotated a th) (fun s => rotated (fa s) (fth s)) t := by
  obtain ⟨h1, h2, h3, h4⟩ := ha
  refine ⟨fun i => ?_, fun i => ?_, fun i => ?_, fun i => ?_⟩ <;> simp only [rotated] <;> track

section
variable {a : Airfoil (Dual ℝ)} {fa : ℝ → Airfoil ℝ} {ts tk : Dual ℝ} {fts ftk : ℝ → ℝ}

theorem n2_ne : (n2 : ℝ) ≠ 0 := by unfold n2; norm_num

theorem aEnc_exact (n : ℕ) (ha : TracksAF a fa t) (hts : Tracks ts fts t) (htk : Tracks tk ftk t) :
    Tracks (aEnc n a ts tk) (fun s => aEnc n (fa s) (fts s) (ftk s)) t := by
  obtain ⟨h1, h2, h3, h4⟩ := ha
  have := n2_ne
  unfold aEnc diff addn n2 at *; track

theorem aInt_exact (n : ℕ) (ha : TracksAF a fa t) (hts : Tracks ts fts t) (htk : Tracks tk ftk t) :
    Tracks (aInt n a ts tk) (fun s => aInt n (fa s) (fts s) (ftk s)) t := by
  obtain ⟨h1, h2, h3, h4⟩ := ha
  have := n2_ne
  unfold aInt diff addn n2 at *; track

/-- perimeter over thickness: the skin segments must have positive length, the thicknesses be non-zero -/
theorem pByT_exact (n : ℕ) (ha : TracksAF a fa t) (hts : Tracks ts fts t) (htk : Tracks tk ftk t)
    (hu : ∀ i, i < n → 0 < diff (fa t).xu i * diff (fa t).xu i + diff (fa t).yu i * diff (fa t).yu i)
    (hl : ∀ i, i < n → 0 < diff (fa t).xl i * diff (fa t).xl i + diff (fa t).yl i * diff (fa t).yl i)
    (hs0 : fts t ≠ 0) (hk0 : ftk t ≠ 0) :
    Tracks (pByT n a ts tk) (fun s => pByT n (fa s) (fts s) (ftk s)) t := by
  obtain ⟨h1, h2, h3, h4⟩ := ha
  unfold pByT diff at *; track
  · exact hu _ ‹_›
  · exact hl _ ‹_›

theorem torsionJ_exact (n : ℕ) (ha : TracksAF a fa t) (hts : Tracks ts fts t) (htk : Tracks tk ftk t)
    (hu : ∀ i, i < n → 0 < diff (fa t).xu i * diff (fa t).xu i + diff (fa t).yu i * diff (fa t).yu i)
    (hl : ∀ i, i < n → 0 < diff (fa t).xl i * diff (fa t).xl i + diff (fa t).yl i * diff (fa t).yl i)
    (hs0 : fts t ≠ 0) (hk0 : ftk t ≠ 0) (hp : pByT n (fa t) (fts t) (ftk t) ≠ 0) :
    Tracks (torsionJ n a ts tk) (fun s => torsionJ n (fa s) (fts s) (ftk s)) t := by
  have hA := aEnc_exact n ha hts htk
  have hP := pByT_exact n ha hts htk hu hl hs0 hk0
  unfold torsionJ
  exact (((Tracks.natCast 4).mul (hA.mul hA)).div hP hp)

theorem area_exact (n : ℕ) (ha : TracksAF a fa t) (hts : Tracks ts fts t) (htk : Tracks tk ftk t) :
    Tracks (area n a ts tk) (fun s => area n (fa s) (fts s) (ftk s)) t := by
  obtain ⟨h1, h2, h3, h4⟩ := ha
  unfold area diff n2 at *; track

theorem centroid_exact (n : ℕ) (ha : TracksAF a fa t) (hts : Tracks ts fts t) (htk : Tracks tk ftk t)
    (hA : area n (fa t) (fts t) (ftk t) ≠ 0) :
    Tracks (centroid n a ts tk) (fun s => centroid n (fa s) (fts s) (ftk s)) t := by
  have hAr := area_exact n ha hts htk
  obtain ⟨h1, h2, h3, h4⟩ := ha
  have := n2_ne
  unfold centroid
  refine Tracks.div ?_ hAr hA
  unfold diff addn n2 at *; track

theorem stripI_exact {x y z : Dual ℝ} {fx fy fz : ℝ → ℝ} (hx : Tracks x fx t) (hy : Tracks y fy t) (hz : Tracks z fz t) :
    Tracks (stripI x y z) (fun s => stripI (fx s) (fy s) (fz s)) t := by
  have := n2_ne
  have h12 : ((12 : ℕ) : ℝ) ≠ 0 := by norm_num
  have h3 : ((3 : ℕ) : ℝ) ≠ 0 := by norm_num
  unfold stripI n2 at *; track

/-- `Iz` (upward bending): the skin segments must not be vertical (`Δx ≠ 0`) -/
theorem iHoriz_exact (n : ℕ) (ha : TracksAF a fa t) (hts : Tracks ts fts t) (htk : Tracks tk ftk t)
    (hA : area n (fa t) (fts t) (ftk t) ≠ 0)
    (hxu : ∀ i, i < n → diff (fa t).xu i ≠ 0) (hxl : ∀ i, i < n → diff (fa t).xl i ≠ 0) :
    Tracks (iHoriz n a ts tk) (fun s => iHoriz n (fa s) (fts s) (ftk s)) t := by
  have hc := centroid_exact n ha hts htk hA
  obtain ⟨h1, h2, h3, h4⟩ := ha
  have := n2_ne
  have h12 : ((12 : ℕ) : ℝ) ≠ 0 := by norm_num
  have hd : ∀ (g : ℕ → Dual ℝ) (fg : ℝ → ℕ → ℝ), (∀ i, Tracks (g i) (fun s => fg s i) t) →
      ∀ i, Tracks (diff g i) (fun s => diff (fg s) i) t := fun g fg h i => (h (i + 1)).sub (h i)
  have hdxu := hd a.xu (fun s => (fa s).xu) h1
  have hdyu := hd a.yu (fun s => (fa s).yu) h2
  have hdxl := hd a.xl (fun s => (fa s).xl) h3
  have hdyl := hd a.yl (fun s => (fa s).yl) h4
  have hadd : ∀ (g : ℕ → Dual ℝ) (fg : ℝ → ℕ → ℝ), (∀ i, Tracks (g i) (fun s => fg s i) t) →
      ∀ i, Tracks (addn g i) (fun s => addn (fg s) i) t := fun g fg h i => (h (i + 1)).add (h i)
  have hayu := hadd a.yu (fun s => (fa s).yu) h2
  have hayl := hadd a.yl (fun s => (fa s).yl) h4
  have hn2 : Tracks (n2 : Dual ℝ) (fun _ => (n2 : ℝ)) t := Tracks.natCast 2
  unfold iHoriz
  simp only []
  refine Tracks.add (Tracks.add (Tracks.add (Tracks.add ?_ ?_) ?_) ?_) ?_
  · refine Tracks.sumTo _ _ _ (fun i hi => ?_)
    refine Tracks.add (stripI_exact ((hdyu i).div (hdxu i) (hxu i hi)) (((hdyu i).add htk).div hn2 n2_ne) (hdxu i)) ?_
    track
  · refine Tracks.sumTo _ _ _ (fun i hi => ?_)
    exact stripI_exact (((hdyl i).neg).div (hdxl i) (hxl i hi)) ((((hdyl i).neg).add htk).div hn2 n2_ne) (hdxl i)
  · refine Tracks.sumTo _ _ _ (fun i hi => ?_)
    track
  · track
  · track

theorem qUpper_exact (n : ℕ) (ha : TracksAF a fa t) (hts : Tracks ts fts t) (htk : Tracks tk ftk t)
    (hA : area n (fa t) (fts t) (ftk t) ≠ 0) :
    Tracks (qUpper n a ts tk) (fun s => qUpper n (fa s) (fts s) (ftk s)) t := by
  have hc := centroid_exact n ha hts htk hA
  obtain ⟨h1, h2, h3, h4⟩ := ha
  have := n2_ne
  unfold qUpper
  simp only []
  unfold diff addn n2 at *; track

theorem centroidIvert_exact (n : ℕ) (ha : TracksAF a fa t) (hts : Tracks ts fts t)
    (h0 : (((fa t).yu 0 - (fa t).yl 0) + ((fa t).yu n - (fa t).yl n)) * fts t ≠ 0) :
    Tracks (centroidIvert n a ts) (fun s => centroidIvert n (fa s) (fts s)) t := by
  obtain ⟨h1, h2, h3, h4⟩ := ha
  have := n2_ne
  unfold centroidIvert n2 at *; track

theorem iVert_exact (n : ℕ) (ha : TracksAF a fa t) (hts : Tracks ts fts t) (htk : Tracks tk ftk t)
    (h0 : (((fa t).yu 0 - (fa t).yl 0) + ((fa t).yu n - (fa t).yl n)) * fts t ≠ 0) :
    Tracks (iVert n a ts tk) (fun s => iVert n (fa s) (fts s) (ftk s)) t := by
  have hc := centroidIvert_exact n ha hts h0
  obtain ⟨h1, h2, h3, h4⟩ := ha
  have := n2_ne
  have h12 : ((12 : ℕ) : ℝ) ≠ 0 := by norm_num
  unfold iVert n2 at *
  simp only []
  track
end

/-- KS envelope of the heights (hard-coded `ρ = 500`), away from ties in the running maximum -/
theorem ksMax_exact (n : ℕ) {g : ℕ → Dual ℝ} {fg : ℕ → ℝ → ℝ} (hg : ∀ k, Tracks (g k) (fg k) t)
    (hne : ∀ k, k < n → maxUpTo k (fun i => fg i t) ≠ fg (k + 1) t) :
    Tracks (ksMax n g) (fun s => ksMax n (fun i => fg i s)) t :=
  ks_exact n (Tracks.natCast 500) (by norm_num) hg hne

/-- **`SectionPropertiesWingbox.compute`**, all eleven outputs of one element w.r.t. all six inputs (`streamwise_chords`,
`fem_chords`, `fem_twists`, `spar_thickness`, `skin_thickness`, `t_over_c`).  Side conditions: non-zero chord, thicknesses,
material area, spar heights and `p/t`; skin segments of positive length that are not vertical after the rotation; no tie in the
running maxima of the two height envelopes. -/
theorem sectionProperties_exact (n : ℕ) (af : Airfoil ℝ) (tc0 : ℝ) {sc c th ts tk tc : Dual ℝ} {fsc fc fth fts ftk ftc : ℝ → ℝ}
    (hsc : Tracks sc fsc t) (hc : Tracks c fc t) (hth : Tracks th fth t) (hts : Tracks ts fts t) (htk : Tracks tk ftk t)
    (htc : Tracks tc ftc t) (h0 : tc0 ≠ 0) (hc0 : fc t ≠ 0) (hs0 : fts t ≠ 0) (hk0 : ftk t ≠ 0) :
    let a0 := fun s => scaled af (fc s) (ftc s) tc0 (fsc s)
    let a1 := fun s => rotated (a0 s) (fth s)
    (∀ i, i < n → 0 < diff (a0 t).xu i * diff (a0 t).xu i + diff (a0 t).yu i * diff (a0 t).yu i) →
    (∀ i, i < n → 0 < diff (a0 t).xl i * diff (a0 t).xl i + diff (a0 t).yl i * diff (a0 t).yl i) →
    pByT n (a0 t) (fts t) (ftk t) ≠ 0 →
    area n (a1 t) (fts t) (ftk t) ≠ 0 →
    (∀ i, i < n → diff (a1 t).xu i ≠ 0) → (∀ i, i < n → diff (a1 t).xl i ≠ 0) →
    ((((a1 t).yu 0 - (a1 t).yl 0) + ((a1 t).yu n - (a1 t).yl n)) * fts t ≠ 0) →
    (∀ k, k < n → maxUpTo k (fun i => (a1 t).yu i) ≠ (a1 t).yu (k + 1)) →
    (∀ k, k < n → maxUpTo k (fun i => -(a1 t).yl i) ≠ -(a1 t).yl (k + 1)) →
    let S := sectionProperties n (constAF af) (⟨tc0, 0⟩ : Dual ℝ) sc c th ts tk tc
    let fS := fun s => sectionProperties n af tc0 (fsc s) (fc s) (fth s) (fts s) (ftk s) (ftc s)
    Tracks S.A (fun s => (fS s).A) t ∧ Tracks S.Aenc (fun s => (fS s).Aenc) t ∧ Tracks S.Aint (fun s => (fS s).Aint) t ∧
    Tracks S.Iy (fun s => (fS s).Iy) t ∧ Tracks S.Qz (fun s => (fS s).Qz) t ∧ Tracks S.Iz (fun s => (fS s).Iz) t ∧
    Tracks S.J (fun s => (fS s).J) t ∧ Tracks S.htop (fun s => (fS s).htop) t ∧ Tracks S.hbottom (fun s => (fS s).hbottom) t ∧
    Tracks S.hfront (fun s => (fS s).hfront) t ∧ Tracks S.hrear (fun s => (fS s).hrear) t := by
  intro a0 a1 hu hl hp hA hxu hxl hsp hmu hml S fS
  have ha0 : TracksAF (scaled (constAF af) c tc (⟨tc0, 0⟩ : Dual ℝ) sc) a0 t :=
    scaled_exact (constAF_tracks af) tc0 hc htc hsc h0 hc0
  have ha1 : TracksAF (rotated (scaled (constAF af) c tc (⟨tc0, 0⟩ : Dual ℝ) sc) th) a1 t := rotated_exact ha0 hth
  have hcen := centroid_exact n ha1 hts htk hA
  have hcv := centroidIvert_exact n ha1 hts hsp
  refine ⟨area_exact n ha1 hts htk, aEnc_exact n ha0 hts htk, aInt_exact n ha0 hts htk, iVert_exact n ha1 hts htk hsp,
    qUpper_exact n ha1 hts htk hA, iHoriz_exact n ha1 hts htk hA hxu hxl, torsionJ_exact n ha0 hts htk hu hl hs0 hk0 hp,
    ?_, ?_, ?_, ?_⟩
  · exact (ksMax_exact n ha1.2.1 hmu).sub hcen
  · exact (ksMax_exact n (fun k => (ha1.2.2.2 k).neg) hml).add hcen
  · exact hcv.sub (ha1.1 0)
  · exact (ha1.1 n).sub hcv

/-! ### wingbox geometry, radii, fuel volumes -/

section
variable {M : Mesh (Dual ℝ)} {fM : ℝ → Mesh ℝ}

theorem chordLen_exact (nx : ℕ) (hM : ∀ i j, TracksV (M i j) (fun x => fM x i j) t) (j : ℕ)
    (h0 : 0 < V3.normSq (fM t (nx - 1) j - fM t 0 j)) :
    Tracks (chordLen nx M j) (fun s => chordLen nx (fM s) j) t := by
  unfold chordLen; track

theorem streamwiseChord_exact (nx : ℕ) (hM : ∀ i j, TracksV (M i j) (fun x => fM x i j) t) (j : ℕ)
    (h0 : ∀ k, 0 < V3.normSq (fM t (nx - 1) k - fM t 0 k)) :
    Tracks (streamwiseChord nx M j) (fun s => streamwiseChord nx (fM s) j) t := by
  have h1 := chordLen_exact nx hM j (h0 j)
  have h2 := chordLen_exact nx hM (j + 1) (h0 (j + 1))
  unfold streamwiseChord; track

/-- `RadiusComp` / `radii`, w.r.t. mesh and `t_over_c` -/
theorem radii_exact (nx : ℕ) (hM : ∀ i j, TracksV (M i j) (fun x => fM x i j) t) {tc : ℕ → Dual ℝ} {ftc : ℝ → ℕ → ℝ}
    (htc : ∀ j, Tracks (tc j) (fun s => ftc s j) t) (j : ℕ) (h0 : ∀ k, 0 < V3.normSq (fM t (nx - 1) k - fM t 0 k)) :
    Tracks (radii nx M tc j) (fun s => radii nx (fM s) (ftc s) j) t := by
  have h1 := streamwiseChord_exact nx hM j h0
  unfold radii; track

/-- `SparWithinWing` -/
theorem sparWithinWing_exact (nx : ℕ) (hM : ∀ i j, TracksV (M i j) (fun x => fM x i j) t) {r tc : ℕ → Dual ℝ} {fr ftc : ℝ → ℕ → ℝ}
    (hr : ∀ j, Tracks (r j) (fun s => fr s j) t) (htc : ∀ j, Tracks (tc j) (fun s => ftc s j) t) (j : ℕ)
    (h0 : ∀ k, 0 < V3.normSq (fM t (nx - 1) k - fM t 0 k)) :
    Tracks (sparWithinWing nx M r tc j) (fun s => sparWithinWing nx (fM s) (fr s) (ftc s) j) t := by
  have h1 := radii_exact nx hM htc j h0
  unfold sparWithinWing; track
end

/-- `WingboxFuelVol` -/
theorem fuelVol_exact {N : Pts (Dual ℝ)} {fN : ℝ → Pts ℝ} {A : ℕ → Dual ℝ} {fA : ℝ → ℕ → ℝ}
    (hN : ∀ j, TracksV (N j) (fun s => fN s j) t) (hA : ∀ e, Tracks (A e) (fun s => fA s e) t) (e : ℕ)
    (h0 : 0 < V3.normSq (fN t (e + 1) - fN t e)) :
    Tracks (fuelVol N A e) (fun s => fuelVol (fN s) (fA s) e) t := by
  unfold fuelVol; track

/-! ### WingboxGeometry (the component declares finite-difference partials; the oracle derivative of its model is exact) -/

/-- the twist angle of a chord vector that is neither vertical nor in the `z = 0` plane (strictly inside the domain of
`arccos`, on the `else` side of the guard) -/
theorem twistAngle_exact {v : V3 (Dual ℝ)} {fv : ℝ → V3 ℝ} (hv : TracksV v fv t)
    (hxy : 0 < (fv t).x * (fv t).x + (fv t).y * (fv t).y) (hz : (fv t).z ≠ 0) :
    Tracks (twistAngle v) (fun s => twistAngle (fv s)) t := by
  have hn : 0 < V3.normSq (fv t) := by
    unfold V3.normSq; have := mul_self_nonneg (fv t).z; linarith
  have hN := Tracks.norm hv hn
  have hP : Tracks (V3.norm (⟨v.x, v.y, 0⟩ : V3 (Dual ℝ))) (fun s => V3.norm (⟨(fv s).x, (fv s).y, 0⟩ : V3 ℝ)) t := by
    have hq : TracksV (⟨v.x, v.y, 0⟩ : V3 (Dual ℝ)) (fun s => (⟨(fv s).x, (fv s).y, 0⟩ : V3 ℝ)) t := ⟨hv.1, hv.2.1, Tracks.zero⟩
    exact Tracks.norm hq (by simpa [V3.normSq] using hxy)
  have hNpos : 0 < V3.norm (fv t) := by
    unfold V3.norm; exact Real.sqrt_pos.mpr hn
  have hc := hP.div hN hNpos.ne'
  have hlt : V3.norm (⟨(fv t).x, (fv t).y, 0⟩ : V3 ℝ) < V3.norm (fv t) := by
    unfold V3.norm
    apply Real.sqrt_lt_sqrt
    · nlinarith [mul_self_nonneg (fv t).x, mul_self_nonneg (fv t).y]
    · have : 0 < (fv t).z * (fv t).z := mul_self_pos.mpr hz
      nlinarith
  have hc1 : V3.norm (⟨(fv t).x, (fv t).y, 0⟩ : V3 ℝ) / V3.norm (fv t) < 1 := (div_lt_one hNpos).mpr hlt
  have hc0 : 0 < V3.norm (⟨(fv t).x, (fv t).y, 0⟩ : V3 ℝ) / V3.norm (fv t) := by
    apply div_pos _ hNpos
    unfold V3.norm; exact Real.sqrt_pos.mpr (by simpa using hxy)
  unfold twistAngle
  simp only []
  exact Tracks.ite_lt_neg Tracks.one hc hc1 (hc.acos (by linarith) hc1)

end C01AD
end OAS
