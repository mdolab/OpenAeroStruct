import OASProofs.Lemmas.Basic
import OASProofs.Lemmas.Real

/-!
# C17  Performance and flight-condition functionals satisfy their defining identities

Model: `OASModel/Functionals.lean`, `OASModel/AeroFunc.lean` (`coeff`).  Any number of surfaces `ns`.
-/
set_option linter.unusedSectionVars false
set_option linter.unusedSimpArgs false
namespace OAS
namespace C17
open Finset

section field
variable {K : Type} [Field K] [CharZero K]

/-- dynamic pressure `½ ρ v²` -/
def q (rho v : K) : K := 1 / 2 * rho * v ^ 2

theorem dec_half : (dec 1 2 : K) = 1 / 2 := by simp only [dec_def]; push_cast; norm_num

/-- the code's `0.5 * rho * v**2` is the dynamic pressure -/
theorem half_rho_vsq (rho v : K) : (dec 1 2 : K) * rho * (v * v) = q rho v := by rw [dec_half, q]; ring

/-- **Aircraft CL, CD are the reference-area-weighted sums of the surface coefficients and
`L = q S CL`, `D = q S CD`.** -/
theorem c17_total_lift_drag (ns : ℕ) (CL CD S : ℕ → K) (rho v Stot : K) (hS : Stot ≠ 0) :
    (totalLiftDrag ns CL CD S rho v Stot).2.2.1 = (∑ s ∈ range ns, CL s * S s) / Stot ∧
    (totalLiftDrag ns CL CD S rho v Stot).2.2.2 = (∑ s ∈ range ns, CD s * S s) / Stot ∧
    (totalLiftDrag ns CL CD S rho v Stot).1 = q rho v * Stot * (totalLiftDrag ns CL CD S rho v Stot).2.2.1 ∧
    (totalLiftDrag ns CL CD S rho v Stot).2.1 = q rho v * Stot * (totalLiftDrag ns CL CD S rho v Stot).2.2.2 := by
  simp only [totalLiftDrag, sumTo_eq_sum]
  refine ⟨trivial, trivial, ?_, ?_⟩ <;> rw [mul_assoc (q rho v), mul_div_cancel₀ _ hS, ← half_rho_vsq] <;> ring

/-- `S_ref_total` is the sum of the surface areas -/
theorem c17_sum_areas (ns : ℕ) (S : ℕ → K) : sumAreas ns S = ∑ s ∈ range ns, S s := by
  simp [sumAreas, sumTo_eq_sum]

/-- **Lift-equals-weight residual is `1 − L/W`** with `L = q S CL` and
`W = (Σ structural mass + fuel + W0) · g · load factor`. -/
theorem c17_equilibrium (ns : ℕ) (sm : ℕ → K) (fb W0 lf CL Stot v rho : K) :
    (equilibrium ns sm fb W0 lf CL Stot v rho).2 = ((∑ s ∈ range ns, sm s) + fb + W0) * (gravConstant * lf) ∧
    (equilibrium ns sm fb W0 lf CL Stot v rho).1
      = 1 - (q rho v * Stot * CL) / (equilibrium ns sm fb W0 lf CL Stot v rho).2 := by
  simp only [equilibrium, sumTo_eq_sum, half_rho_vsq]
  exact ⟨trivial, trivial⟩

/-- the residual vanishes exactly when lift equals weight -/
theorem c17_equilibrium_zero_iff (ns : ℕ) (sm : ℕ → K) (fb W0 lf CL Stot v rho : K)
    (hW : (equilibrium ns sm fb W0 lf CL Stot v rho).2 ≠ 0) :
    (equilibrium ns sm fb W0 lf CL Stot v rho).1 = 0 ↔
      q rho v * Stot * CL = (equilibrium ns sm fb W0 lf CL Stot v rho).2 := by
  obtain ⟨_, h1⟩ := c17_equilibrium ns sm fb W0 lf CL Stot v rho
  rw [h1, sub_eq_zero, eq_comm, div_eq_one_iff_eq hW]

/-- **Aircraft cg is the mass-weighted mean** of the empty-weight cg and the surfaces' structural
cgs, when `total_weight` is the output of `Equilibrium` (fuel is assumed to sit at the cg). -/
theorem c17_center_of_gravity (ns : ℕ) (sm : ℕ → K) (cgs : ℕ → V3 K) (fb W0 lf : K) (ecg : V3 K)
    (hg : gravConstant * lf ≠ (0 : K)) (hm : W0 + ∑ s ∈ range ns, sm s ≠ 0) :
    (centerOfGravity ns sm cgs (((∑ s ∈ range ns, sm s) + fb + W0) * (gravConstant * lf)) fb W0 lf ecg).x
        * (W0 + ∑ s ∈ range ns, sm s) = W0 * ecg.x + ∑ s ∈ range ns, sm s * (cgs s).x ∧
    (centerOfGravity ns sm cgs (((∑ s ∈ range ns, sm s) + fb + W0) * (gravConstant * lf)) fb W0 lf ecg).y
        * (W0 + ∑ s ∈ range ns, sm s) = W0 * ecg.y + ∑ s ∈ range ns, sm s * (cgs s).y ∧
    (centerOfGravity ns sm cgs (((∑ s ∈ range ns, sm s) + fb + W0) * (gravConstant * lf)) fb W0 lf ecg).z
        * (W0 + ∑ s ∈ range ns, sm s) = W0 * ecg.z + ∑ s ∈ range ns, sm s * (cgs s).z := by
  have hden : ((∑ s ∈ range ns, sm s) + fb + W0) * (gravConstant * lf) / (gravConstant * lf) - fb
      = W0 + ∑ s ∈ range ns, sm s := by
    rw [mul_div_assoc, div_self hg]; ring
  simp only [centerOfGravity, V3.add_x, V3.add_y, V3.add_z, V3.smul_x, V3.smul_y, V3.smul_z, V3.sumTo_x,
    V3.sumTo_y, V3.sumTo_z, hden]
  refine ⟨?_, ?_, ?_⟩ <;> rw [div_mul_cancel₀ _ hm]

/-- `re = ρ v / μ` -/
theorem c17_reynolds (rho v mu : K) : reynolds rho v mu = rho * v / mu := rfl

/-- `CL1 = L / (q S)`, hence `L = q S CL1` -/
theorem c17_coeff (X rho v S : K) (h : q rho v * S ≠ 0) : coeff X rho v S * (q rho v * S) = X := by
  rw [coeff, half_rho_vsq, div_mul_cancel₀ _ h]

/-- **CM is the summed moment divided by `q · S_ref · MAC` of the first surface.** -/
theorem c17_cm (s : MomentCoefficient.Surf K) (rest : List (MomentCoefficient.Surf K)) (cg : V3 K) (rho v Stot : K)
    (h : q rho v * Stot * MomentCoefficient.mac s ≠ 0) :
    (MomentCoefficient.cm (s :: rest) cg rho v Stot).x * (q rho v * Stot * MomentCoefficient.mac s)
      = (MomentCoefficient.moment (s :: rest) cg).x ∧
    (MomentCoefficient.cm (s :: rest) cg rho v Stot).y * (q rho v * Stot * MomentCoefficient.mac s)
      = (MomentCoefficient.moment (s :: rest) cg).y ∧
    (MomentCoefficient.cm (s :: rest) cg rho v Stot).z * (q rho v * Stot * MomentCoefficient.mac s)
      = (MomentCoefficient.moment (s :: rest) cg).z := by
  simp only [MomentCoefficient.cm, half_rho_vsq]
  refine ⟨?_, ?_, ?_⟩ <;> rw [div_mul_cancel₀ _ h]

/-- the total moment is the sum of the surfaces' moments (the left fold of the Python loop) -/
theorem moment_cons (s : MomentCoefficient.Surf K) (rest : List (MomentCoefficient.Surf K)) (cg : V3 K) :
    MomentCoefficient.moment (s :: rest) cg
      = MomentCoefficient.surfMoment s cg + MomentCoefficient.moment rest cg := by
  simp only [MomentCoefficient.moment, ← List.foldl_map (g := (· + ·)) (f := fun s => MomentCoefficient.surfMoment s cg),
    ← List.sum_eq_foldl, List.map_cons, List.sum_cons]

end field

section real
/-- **Fuel burn follows the Breguet range equation**
`fuelburn = (W0 + Ws) (exp(R·CT/(a·M) · CD/CL) − 1)` and vanishes iff the exponent does. -/
theorem c17_breguet (ns : ℕ) (sm : ℕ → ℝ) (CT CL CD a R M W0 : ℝ) :
    breguetFuelburn ns sm CT CL CD a R M W0
      = (W0 + ∑ s ∈ range ns, sm s) * (Real.exp (R * CT / a / M * CD / CL) - 1) := by
  simp [breguetFuelburn, sumTo_eq_sum]

theorem c17_breguet_zero_iff (ns : ℕ) (sm : ℕ → ℝ) (CT CL CD a R M W0 : ℝ) (hW : W0 + ∑ s ∈ range ns, sm s ≠ 0) :
    breguetFuelburn ns sm CT CL CD a R M W0 = 0 ↔ R * CT / a / M * CD / CL = 0 := by
  rw [c17_breguet, mul_eq_zero, or_iff_right hW, sub_eq_zero, Real.exp_eq_one_iff]

/-- fuel burn is positive for positive weights and a positive exponent -/
theorem c17_breguet_pos (ns : ℕ) (sm : ℕ → ℝ) (CT CL CD a R M W0 : ℝ) (hW : 0 < W0 + ∑ s ∈ range ns, sm s)
    (hx : 0 < R * CT / a / M * CD / CL) : 0 < breguetFuelburn ns sm CT CL CD a R M W0 := by
  rw [c17_breguet]
  have : 1 < Real.exp (R * CT / a / M * CD / CL) := Real.one_lt_exp_iff.mpr hx
  exact mul_pos hW (by linarith)
end real

end C17
end OAS
