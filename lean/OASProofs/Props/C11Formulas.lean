import OASProofs.Lemmas.Basic
import OASProofs.Lemmas.Real
import OASProofs.Generated.Formulas

/-!
# Translated formulas = model, transfer components (C11)

`ComputeTransformationMatrix.compute` fills its output slot by slot (`X = 0.0`, `X[:, i, i] -= 2.0`, `X[:, 1, 1] += cos(rx)` …).
The accumulation translator (`harness/accum.py`) executes that method symbolically on every run – `=` replaces a slot's
expression, `+=`/`-=` extend it in program order, `for i in range(3)` is unrolled – and emits one definition per slot
(`Generated.F.tm_a_r_c`).  The theorem shows that the model's transformation matrix is exactly those nine slots.  Likewise the
aerodynamic centres and spar points of `LoadTransfer` and the nodes of `ComputeNodes`.
-/
set_option linter.unusedSectionVars false
set_option linter.unusedSimpArgs false
namespace OAS
namespace Formulas
open Generated

theorem dec_eq' (a b : ℕ) : (dec a b : ℝ) = (a : ℝ) / (b : ℝ) := rfl

/-- **`ComputeTransformationMatrix.compute`**: all nine entries, as accumulated by the code -/
theorem c11_transformation_matrix (r : V3 ℝ) :
    transformationMatrix r =
      ⟨⟨F.tm_a_0_0 r.y r.z, F.tm_a_0_1 r.z, F.tm_a_0_2 r.y⟩,
       ⟨F.tm_a_1_0 r.z, F.tm_a_1_1 r.x r.z, F.tm_a_1_2 r.x⟩,
       ⟨F.tm_a_2_0 r.y, F.tm_a_2_1 r.x, F.tm_a_2_2 r.x r.y⟩⟩ := by
  simp only [transformationMatrix, F.tm_a_0_0, F.tm_a_0_1, F.tm_a_0_2, F.tm_a_1_0, F.tm_a_1_1, F.tm_a_1_2, F.tm_a_2_0, F.tm_a_2_1,
    F.tm_a_2_2, dec_eq', elem_cos, elem_sin, M3.mk.injEq, V3.mk.injEq]
  norm_num

/-- `LoadTransfer.compute`: aerodynamic centre of a panel and structural node of a station, component by component -/
theorem c11_load_transfer_points (nx : ℕ) (w1 w2 : ℝ) (mesh : Mesh ℝ) (i j : ℕ) :
    (LoadTransfer.aPt w1 mesh i j).x = F.lt_a_pts w1 (mesh i j).x (mesh (i + 1) j).x (mesh i (j + 1)).x (mesh (i + 1) (j + 1)).x ∧
    (LoadTransfer.aPt w1 mesh i j).y = F.lt_a_pts w1 (mesh i j).y (mesh (i + 1) j).y (mesh i (j + 1)).y (mesh (i + 1) (j + 1)).y ∧
    (LoadTransfer.aPt w1 mesh i j).z = F.lt_a_pts w1 (mesh i j).z (mesh (i + 1) j).z (mesh i (j + 1)).z (mesh (i + 1) (j + 1)).z ∧
    (LoadTransfer.sPt nx w2 mesh j).x = F.lt_s_pts w2 (mesh 0 j).x (mesh (nx - 1) j).x ∧
    (LoadTransfer.sPt nx w2 mesh j).y = F.lt_s_pts w2 (mesh 0 j).y (mesh (nx - 1) j).y ∧
    (LoadTransfer.sPt nx w2 mesh j).z = F.lt_s_pts w2 (mesh 0 j).z (mesh (nx - 1) j).z := by
  have ha : ∀ p : V3 ℝ → ℝ, V3.Linear p → p (LoadTransfer.aPt w1 mesh i j)
      = F.lt_a_pts w1 (p (mesh i j)) (p (mesh (i + 1) j)) (p (mesh i (j + 1))) (p (mesh (i + 1) (j + 1))) := by
    intro p hp
    simp only [LoadTransfer.aPt, F.lt_a_pts, hp.add, hp.smul, dec_eq']
    norm_num
  have hs : ∀ p : V3 ℝ → ℝ, V3.Linear p → p (LoadTransfer.sPt nx w2 mesh j) = F.lt_s_pts w2 (p (mesh 0 j)) (p (mesh (nx - 1) j)) := by
    intro p hp
    simp only [LoadTransfer.sPt, F.lt_s_pts, hp.add, hp.smul, Nat.cast_one]
  exact ⟨ha _ V3.linear_x, ha _ V3.linear_y, ha _ V3.linear_z, hs _ V3.linear_x, hs _ V3.linear_y, hs _ V3.linear_z⟩

/-- `ComputeNodes.compute` -/
theorem c11_compute_nodes (nx : ℕ) (w : ℝ) (mesh : Mesh ℝ) (j : ℕ) :
    (computeNodes nx w mesh j).x = F.cn_nodes w (mesh 0 j).x (mesh (nx - 1) j).x ∧
    (computeNodes nx w mesh j).y = F.cn_nodes w (mesh 0 j).y (mesh (nx - 1) j).y ∧
    (computeNodes nx w mesh j).z = F.cn_nodes w (mesh 0 j).z (mesh (nx - 1) j).z := by
  have h : ∀ p : V3 ℝ → ℝ, V3.Linear p → p (computeNodes nx w mesh j) = F.cn_nodes w (p (mesh 0 j)) (p (mesh (nx - 1) j)) := by
    intro p hp
    simp only [computeNodes, F.cn_nodes, hp.add, hp.smul, Nat.cast_one]
  exact ⟨h _ V3.linear_x, h _ V3.linear_y, h _ V3.linear_z⟩

end Formulas
end OAS
