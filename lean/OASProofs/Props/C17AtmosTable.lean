import OASProofs.Props.C17Akima
import OASProofs.Props.C17Atmos
namespace OAS.C17AtmosTable
open OAS OAS.Akima OAS.Generated OAS.C17Atmos OAS.C17Akima

/-- altitude of a generated row as a real number (the table stores `altitude + 1000 ft` as a decimal fraction) -/
noncomputable def altOf (r : AtmosRow) : ℝ := (r.altM : ℝ) / (10 : ℝ) ^ r.altE - 1000

/-- the altitude column of the regenerated table as the abscissae of the interpolant -/
noncomputable def altColumn (k : ℕ) : ℝ := altOf (atmosTable.getD k ⟨0, 0, 0, 0, 0, 0, 0, 0, 0, 0⟩)

theorem decLt_real {xm xe ym ye : ℕ} (h : decLt xm xe ym ye = true) : (xm : ℝ) / (10 : ℝ) ^ xe < (ym : ℝ) / (10 : ℝ) ^ ye := by
  have h' : xm * 10 ^ ye < ym * 10 ^ xe := by simpa [decLt] using h
  have hr : (xm : ℝ) * (10 : ℝ) ^ ye < (ym : ℝ) * (10 : ℝ) ^ xe := by exact_mod_cast h'
  rw [div_lt_div_iff₀ (by positivity) (by positivity)]
  exact hr

theorem chain_adjacent (d : AtmosRow) : ∀ (l : List AtmosRow), chainOK l = true → ∀ k, k + 1 < l.length →
    altOf (l.getD k d) < altOf (l.getD (k + 1) d)
  | [], _, k, hk => by simp at hk
  | [_], _, k, hk => by simp at hk
  | a :: b :: rest, h, k, hk => by
    obtain ⟨hab, hrest⟩ := (Bool.and_eq_true _ _).mp (show (orderedPair a b && chainOK (b :: rest)) = true from h)
    cases k with
    | zero =>
      simp only [orderedPair, Bool.and_eq_true] at hab
      exact sub_lt_sub_right (decLt_real hab.1.1) _
    | succ k => exact chain_adjacent d (b :: rest) hrest k (Nat.lt_of_succ_lt_succ hk)

/-- **C17** the altitude column of the table regenerated from the source is strictly increasing: the hypothesis of the
interpolation, continuity and derivative theorems holds for the table the code interpolates -/
theorem c17_alt_column_increasing : Increasing atmosTable.length altColumn :=
  Increasing.of_succ fun k hk => chain_adjacent _ atmosTable c17_atmos_ordered k hk

end OAS.C17AtmosTable
