import OASProofs.Lemmas.Kernel
import OASProofs.Lemmas.Rotation

/-!
# C09  Compressibility correction implements Prandtl–Glauert and is exact at Mach 0

Model: `OASModel/PG.lean` (`pg_wind_rotation.py`, `pg_scale.py`) and `OASModel/Compressible.lean`, the wiring of
`compressible_states.py` (rotate → scale → incompressible solve at α = β = 0 with the transformed normals →
unscale → rotate back), which the correspondence check compares with the real `AeroPoint(compressible=True)`.
-/
set_option linter.unusedSectionVars false
set_option linter.unusedSimpArgs false
namespace OAS
namespace C09
open PG

/-- the first row of `Tw` is the free-stream direction: the wind frame has `x` along the free stream -/
theorem c09_wind_x_is_freestream (a b : ℝ) :
    (tw a b).r0 = ⟨Real.cos a * Real.cos b, -Real.sin b, Real.sin a * Real.cos b⟩ := by
  ext <;> simp [tw] <;> ring

/-- **the wind-frame rotation is orthogonal**: rotating back (`Twᵀ`) undoes the rotation -/
theorem c09_rot_orthogonal (a b : ℝ) (v : V3 ℝ) : fromWind a b (toWind a b v) = v := by
  have ha := Real.sin_sq_add_cos_sq a
  have hb := Real.sin_sq_add_cos_sq b
  simp only [fromWind, toWind, tw, transpose, M3.mulVec, elem_cos, elem_sin]
  set ca := Real.cos a; set sa := Real.sin a; set cb := Real.cos b; set sb := Real.sin b
  ext <;> simp only []
  · linear_combination (v.x * ca * ca + v.z * ca * sa) * hb + v.x * ha
  · linear_combination v.y * hb
  · linear_combination (sa * ca * v.x + v.z * sa * sa) * hb + v.z * ha

/-- and conversely: `Tw Twᵀ = I` -/
theorem c09_rot_orthogonal' (a b : ℝ) (v : V3 ℝ) : toWind a b (fromWind a b v) = v := by
  have ha := Real.sin_sq_add_cos_sq a
  have hb := Real.sin_sq_add_cos_sq b
  simp only [fromWind, toWind, tw, transpose, M3.mulVec, elem_cos, elem_sin]
  set ca := Real.cos a; set sa := Real.sin a; set cb := Real.cos b; set sb := Real.sin b
  ext <;> simp only []
  · linear_combination (v.x * cb * cb) * ha + v.x * hb + (cb * sb * v.y) * ha
  · linear_combination (v.y * sb * sb) * ha + v.y * hb + (sb * cb * v.x) * ha
  · linear_combination v.z * ha

/-- rotations preserve lengths (forces keep their magnitude when rotated back) -/
theorem c09_rot_isometry (a b : ℝ) (v : V3 ℝ) : V3.normSq (toWind a b v) = V3.normSq v := by
  have ha := Real.sin_sq_add_cos_sq a
  have hb := Real.sin_sq_add_cos_sq b
  simp only [toWind, tw, M3.mulVec, V3.normSq, elem_cos, elem_sin]
  set ca := Real.cos a; set sa := Real.sin a; set cb := Real.cos b; set sb := Real.sin b
  linear_combination ((v.x * ca + v.z * sa) ^ 2) * hb + (v.x ^ 2 + v.z ^ 2) * ha + v.y ^ 2 * hb

/-- **Prandtl–Glauert factor**: `β = √(1 − M²)` is positive for subsonic Mach numbers … -/
theorem c09_beta_pos (M : ℝ) (h0 : 0 ≤ M) (h1 : M < 1) : 0 < betaPG M := by
  simp only [betaPG, elem_sqrt]
  apply Real.sqrt_pos.mpr
  nlinarith

/-- … equals 1 at Mach 0 … -/
theorem c09_beta_mach0 : betaPG (0 : ℝ) = 1 := by simp [betaPG]

/-- … and depends continuously on the Mach number -/
theorem c09_beta_continuous : Continuous (fun M : ℝ => betaPG M) := by
  simp only [betaPG, elem_sqrt]
  exact Real.continuous_sqrt.comp (by continuity)

/-- **At Mach 0 the geometric stretching and the force scaling are the identity** -/
theorem c09_mach0_identity (v : V3 ℝ) :
    scaleGeom (betaPG (0 : ℝ)) v = v ∧ scaleNormal (betaPG (0 : ℝ)) v = v ∧ unscaleForce (betaPG (0 : ℝ)) v = v := by
  rw [c09_beta_mach0]
  refine ⟨?_, ?_, ?_⟩ <;> ext <;> simp [scaleGeom, scaleNormal, unscaleForce]

/-- **forces are scaled by `1/β⁴` streamwise and `1/β³` laterally/vertically** -/
theorem c09_force_scaling (M : ℝ) (f : V3 ℝ) :
    unscaleForce (betaPG M) f = ⟨f.x / (betaPG M) ^ 4, f.y / (betaPG M) ^ 3, f.z / (betaPG M) ^ 3⟩ := by
  ext <;> simp [unscaleForce] <;> ring

/-- the force scale factors are continuous in the Mach number on the subsonic range -/
theorem c09_scaling_continuous : ContinuousOn (fun M : ℝ => 1 / (betaPG M) ^ 4) (Set.Ico 0 1) ∧
    ContinuousOn (fun M : ℝ => 1 / (betaPG M) ^ 3) (Set.Ico 0 1) := by
  constructor <;>
  · apply ContinuousOn.div continuousOn_const
    · exact (c09_beta_continuous.pow _).continuousOn
    · intro M hM
      exact pow_ne_zero _ (ne_of_gt (c09_beta_pos M hM.1 hM.2))

/-- the normal transformation `(β nₓ, n_y, n_z)` is, up to a positive factor, the normal of the
stretched geometry: tangency to the stretched surface is tangency with the transformed normal -/
theorem c09_normal_of_stretched (B : ℝ) (n t : V3 ℝ) :
    V3.dot (scaleGeom B t) (scaleNormal B n) = B * V3.dot t n := by
  simp [scaleGeom, scaleNormal, V3.dot]; ring

/-! ### At Mach 0 and zero sideslip the compressible system *is* the incompressible one -/

/-- the wind-frame rotation at zero sideslip (a rotation about the `y` axis) is a proper rotation -/
theorem toWind_isRot (a : ℝ) : IsRot (toWind a 0) := by
  have ha := Real.sin_sq_add_cos_sq a
  refine ⟨?_, ?_, ?_, ?_⟩
  · intro u v; ext <;> simp [toWind, tw, M3.mulVec] <;> ring
  · intro c v; ext <;> simp [toWind, tw, M3.mulVec, V3.smul] <;> ring
  · intro u v
    simp only [toWind, tw, M3.mulVec, V3.dot, elem_cos, elem_sin, Real.cos_zero, Real.sin_zero]
    linear_combination (u.x * v.x + u.z * v.z) * ha
  · intro u v
    ext <;> simp only [toWind, tw, M3.mulVec, V3.cross, elem_cos, elem_sin, Real.cos_zero, Real.sin_zero]
    · ring
    · linear_combination (u.z * v.x - u.x * v.z) * ha
    · ring

/-- … that commutes with the mirror image about the symmetry plane -/
theorem toWind_mirror (a : ℝ) (v : V3 ℝ) : toWind a 0 (VLM.mirrorY v) = VLM.mirrorY (toWind a 0 v) := by
  ext <;> simp [toWind, tw, M3.mulVec]

theorem pgSurf_mach0 (a b : ℝ) : pgSurf a b (betaPG (0 : ℝ)) = VLM.mapSurf (toWind a b) := by
  funext s
  rw [c09_beta_mach0]
  simp only [pgSurf, VLM.mapSurf, scaleGeom, mul_one]

theorem pgNormal_mach0 (a b : ℝ) (s : VLM.Surf ℝ) (i j : ℕ) :
    pgNormal a b (betaPG (0 : ℝ)) s i j = toWind a b (VLM.normal s i j) := by
  rw [c09_beta_mach0]
  simp only [pgNormal, scaleNormal, mul_one]

theorem deg2rad_zero : deg2rad (0 : ℝ) = 0 := by simp [deg2rad]

/-- the geometric hypotheses of the rotation theorems hold between a flow and the wind-frame flow the compressible group
solves in -/
theorem rotGeo_toWind (surfs : List (VLM.Surf ℝ)) (f : VLM.Flow ℝ) (hg : ∀ s ∈ surfs, s.ground = false) :
    VLM.RotGeo (toWind (deg2rad f.alpha) 0) surfs f (pgFlow f) := by
  have ha := Real.sin_sq_add_cos_sq (deg2rad f.alpha)
  refine ⟨hg, fun s _ _ v => toWind_mirror _ v, ?_⟩
  ext <;> simp only [VLM.wakeDir, pgFlow, deg2rad_zero, toWind, tw, M3.mulVec, elem_cos, elem_sin,
    Real.cos_zero, Real.sin_zero]
  · linear_combination -ha
  · ring
  · ring

/-- at zero sideslip the free stream of the wind-frame flow is the rotated free stream -/
theorem freestream_toWind (f : VLM.Flow ℝ) (hb : f.beta = 0) :
    VLM.freestreamDir (pgFlow f) = toWind (deg2rad f.alpha) 0 (VLM.freestreamDir f) := by
  have ha := Real.sin_sq_add_cos_sq (deg2rad f.alpha)
  ext <;> simp only [VLM.freestreamDir, pgFlow, hb, deg2rad_zero, toWind, tw, M3.mulVec, elem_cos, elem_sin,
    Real.cos_zero, Real.sin_zero]
  · linear_combination (-f.v) * ha
  · ring
  · ring

/-- **at Mach 0 and zero sideslip the onset velocity of the Prandtl–Glauert-domain solve is the rotated onset velocity** –
with rotation rates too: `ω × (c − cg)` is computed in the body frame and rotated with everything else -/
theorem pgOnset_mach0 (f : VLM.Flow ℝ) (hb : f.beta = 0) (c : V3 ℝ) :
    pgOnset f (deg2rad f.alpha) 0 (betaPG (0 : ℝ)) c = toWind (deg2rad f.alpha) 0 (VLM.onset f c) := by
  have hR := toWind_isRot (deg2rad f.alpha)
  rw [c09_beta_mach0]
  simp only [pgOnset, VLM.onset, freestream_toWind f hb]
  cases f.rotational
  · simp only [Bool.false_eq_true, if_false]
    ext <;> simp
  · simp only [if_true]
    rw [hR.add]
    congr 1
    simp only [scaleRotVel, mul_one]

/-- **At Mach 0 and zero sideslip the compressible and the incompressible solvers coincide**: for every list of
surfaces (any sizes, symmetric or not, no ground effect) and every flow without sideslip – *with or without rotation
rates* – the Prandtl–Glauert system has the *same* influence matrix and the *same* right-hand side as the incompressible
system – hence the same circulations – and returns the *same* sectional forces for any circulations. -/
theorem c09_mach0_coincides (surfs : List (VLM.Surf ℝ)) (f : VLM.Flow ℝ) (hb : f.beta = 0)
    (hg : ∀ s ∈ surfs, s.ground = false) :
    (∀ m n, PG.aic surfs f 0 m n = VLM.aic surfs f m n) ∧
    (∀ m, PG.rhs surfs f 0 m = VLM.rhs surfs f m) ∧
    (∀ gamma m, PG.secForce surfs f 0 gamma m = VLM.panelForce surfs f gamma m) := by
  have hR := toWind_isRot (deg2rad f.alpha)
  have H := (rotGeo_toWind surfs f hg).rigid hR (f' := pgFlow f) rfl
  have hb0 : deg2rad f.beta = 0 := by rw [hb, deg2rad_zero]
  refine ⟨?_, ?_, ?_⟩
  · intro m n
    rw [← H.aic_eq m n]
    simp only [PG.aic, VLM.aic, hb0, pgSurf_mach0, pgNormal_mach0]
    rw [VLM.locate_map (VLM.mapSurf _) (fun _ => rfl) (fun _ => rfl)]
    cases VLM.locate surfs m with
    | none => rfl
    | some t =>
      obtain ⟨s, i, j⟩ := t
      simp only [Option.map_some, VLM.normal_map H.ortho H.affine (one_mul 1), V3.one_smul]
  · intro m
    simp only [PG.rhs, VLM.rhs, hb0, pgNormal_mach0, pgOnset_mach0 f hb]
    cases VLM.locate surfs m with
    | none => rfl
    | some t => obtain ⟨s, i, j⟩ := t; simp only [hR.dot]
  · intro gamma m
    simp only [PG.secForce, hb0, pgSurf_mach0, (c09_mach0_identity _).2.2]
    rw [VLM.panelForce_eq_with surfs f gamma m]
    have hon : ∀ k, pgOnsetAt surfs f (deg2rad f.alpha) 0 (betaPG 0) k = toWind (deg2rad f.alpha) 0 (VLM.onsetAt surfs f k) := by
      intro k
      unfold pgOnsetAt VLM.onsetAt
      cases VLM.locate surfs k with
      | none => exact H.ortho.zero.symm
      | some t => obtain ⟨s, i, j⟩ := t; exact pgOnset_mach0 f hb _
    rw [H.panelForceWith_eq hon, c09_rot_orthogonal]

/-- non-vacuity: a two-panel non-symmetric surface at 5° incidence satisfies the hypotheses -/
example : let s : VLM.Surf ℝ := ⟨2, 3, false, false, false, fun i j => ⟨(i : ℝ), (j : ℝ) - 1, 0⟩⟩
    let f : VLM.Flow ℝ := ⟨5, 0, 10, 1, ⟨0, 1, 0⟩, 0, 0, true⟩
    f.beta = 0 ∧ ∀ t ∈ [s], t.ground = false := by
  simp

end C09
end OAS
