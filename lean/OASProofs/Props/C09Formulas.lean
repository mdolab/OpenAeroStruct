import OASProofs.Lemmas.Basic
import OASProofs.Lemmas.Real
import OASProofs.Generated.Formulas

/-!
# Translated formulas = model (C09)

The Prandtl–Glauert factor `betaPG = np.sqrt(1 - M**2)` of both scaling components of `pg_scale.py`, re-derived from the
source on every run, is the model's `PG.betaPG`.
-/
set_option linter.unusedSectionVars false
namespace OAS
namespace Formulas
open Generated

theorem pg_beta (M : ℝ) : F.pg_beta_to M = PG.betaPG M ∧ F.pg_beta_from M = PG.betaPG M := by
  constructor <;> simp only [F.pg_beta_to, F.pg_beta_from, PG.betaPG, Nat.cast_one]

end Formulas
end OAS
