import OASProofs.Lemmas.Basic
import OASProofs.Lemmas.Real

/-!
# C14 (continued)  Unifying C0-continuous sections reproduces the contiguous surface node for node

Model: `OASModel/Unify.lean` (`geometry_unification.py: unify_mesh`, `compute_uni_mesh_dims`).
-/
set_option linter.unusedSectionVars false
set_option linter.unusedSimpArgs false
namespace OAS
namespace C14Unify
open Unify

/-- consecutive sections share their edge: the last column of a section is the first column of the next -/
def C0 : List (Sec ℝ) → Prop
  | [] => True
  | [_] => True
  | s :: s' :: rest => (∀ i, s.mesh i (s.ny - 1) = s'.mesh i 0) ∧ C0 (s' :: rest)

theorem v3_sub_add_cancel (a b : V3 ℝ) : a - b + b = a := by ext <;> simp

/-- the leading-edge shift applied before a section that shares its edge with the previous one is zero -/
theorem shift_eq_self (shift : Bool) (acc : Mesh ℝ) (prev s : Sec ℝ) {rest : List (Sec ℝ)}
    (h : shift = true → C0 (prev :: s :: rest)) :
    (if shift = true then fun i c => acc i c - prev.mesh 0 (prev.ny - 1) + s.mesh 0 0 else acc) = acc := by
  split_ifs with hs
  · funext i c
    rw [(h hs).1 0]; exact v3_sub_add_cancel _ _
  · rfl

/-- appending `m` columns `b` to `n` columns `a`, then `d`, is appending to `a` the columns `b` followed by `d` -/
theorem ite_append {α : Type} (n m c : ℕ) (a b d : α) :
    (if c < n + m then (if c < n then a else b) else d) = if c < n then a else if c - n < m then b else d := by
  by_cases h : c < n
  · rw [if_pos h, if_pos h, if_pos (Nat.lt_add_right m h)]
  · rw [if_neg h, if_neg h]
    exact if_congr (by omega) rfl rfl

/-- the loop of `unify_mesh` appends, to the `n` columns assembled so far, the contiguous surface of the remaining
sections – without the shift for any sections, with the shift when the edges are shared (the shift vector is zero) -/
theorem unifyAux_eq (shift : Bool) (rest : List (Sec ℝ)) : ∀ (acc : Mesh ℝ) (n : ℕ) (prev s : Sec ℝ),
    (shift = true → C0 (prev :: s :: rest)) →
    (unifyAux shift acc n prev (s :: rest)).1 = fun i c => if c < n then acc i c else contig (s :: rest) i (c - n) := by
  induction rest with
  | nil => intro acc n prev s _; rfl
  | cons s' rest ih =>
    intro acc n prev s h
    show (unifyAux shift (fun i c => if c < n then (if shift = true then fun i c => acc i c - prev.mesh 0 (prev.ny - 1) + s.mesh 0 0 else acc) i c
        else s.mesh i (c - n)) (n + (s.ny - 1)) s (s' :: rest)).1 = _
    rw [shift_eq_self shift acc prev s h, ih _ _ s s' fun hs => (h hs).2]
    funext i c
    rw [ite_append, Nat.sub_add_eq]
    rfl

/-- **Without the shift `unify_mesh` is the plain concatenation** (every section but the last loses its last column) -/
theorem c14_unify_noshift (secs : List (Sec ℝ)) : (unify false secs).1 = contig secs := by
  match secs with
  | [] => rfl
  | [s] => rfl
  | s :: s' :: rest =>
    show (unifyAux false s.mesh (s.ny - 1) s (s' :: rest)).1 = _
    rw [unifyAux_eq false rest s.mesh (s.ny - 1) s s' (by simp)]
    rfl

/-- **With the shift option, C0-continuous sections are unified into the same contiguous surface** (the shift vectors
vanish) -/
theorem c14_unify_shift (secs : List (Sec ℝ)) (h : C0 secs) : (unify true secs).1 = contig secs := by
  match secs, h with
  | [], _ => rfl
  | [s], _ => rfl
  | s :: s' :: rest, h =>
    show (unifyAux true s.mesh (s.ny - 1) s (s' :: rest)).1 = _
    rw [unifyAux_eq true rest s.mesh (s.ny - 1) s s' (fun _ => h)]
    rfl

/-- column offset of section `k` in the unified mesh -/
def offset : List (Sec ℝ) → ℕ → ℕ
  | [], _ => 0
  | _ :: _, 0 => 0
  | s :: rest, k + 1 => (s.ny - 1) + offset rest k

/-- **Node for node**: in the contiguous surface of C0-continuous sections (each with at least one spanwise node),
column `c` of section `k` sits at column `offset k + c` – *including* the shared edge columns, which therefore
coincide with both neighbours -/
theorem c14_contig_node_for_node : ∀ (secs : List (Sec ℝ)), C0 secs → (∀ s ∈ secs, 1 ≤ s.ny) →
    ∀ (k : ℕ) (hk : k < secs.length) (c : ℕ), c < (secs[k]).ny → ∀ i, contig secs i (offset secs k + c) = (secs[k]).mesh i c
  | [], _, _, k, hk, _, _, _ => absurd hk (Nat.not_lt_zero _)
  | [s], _, _, 0, _, c, _, i => congrArg (s.mesh i) (Nat.zero_add c)
  | [_], _, _, k + 1, hk, _, _, _ => absurd (Nat.lt_of_succ_lt_succ hk) (Nat.not_lt_zero _)
  | s :: s' :: rest, h, hny, 0, _, c, hc, i => by
      have hc : c < s.ny := hc
      show (if 0 + c < s.ny - 1 then s.mesh i (0 + c) else contig (s' :: rest) i (0 + c - (s.ny - 1))) = s.mesh i c
      rw [Nat.zero_add]
      split_ifs with h1
      · rfl
      · -- the shared edge: last column of `s` = first column of `s'`
        obtain rfl : c = s.ny - 1 := by omega
        rw [Nat.sub_self, h.1 i]
        exact c14_contig_node_for_node (s' :: rest) h.2 (fun t ht => hny t (List.mem_cons_of_mem _ ht)) 0 (Nat.zero_lt_succ _) 0
          (hny s' (List.mem_cons_of_mem _ List.mem_cons_self)) i
  | s :: s' :: rest, h, hny, k + 1, hk, c, hc, i => by
      show (if s.ny - 1 + offset (s' :: rest) k + c < s.ny - 1 then _
        else contig (s' :: rest) i (s.ny - 1 + offset (s' :: rest) k + c - (s.ny - 1))) = _
      rw [if_neg (by omega), Nat.add_assoc, Nat.add_sub_cancel_left]
      exact c14_contig_node_for_node (s' :: rest) h.2 (fun t ht => hny t (List.mem_cons_of_mem _ ht)) k (Nat.lt_of_succ_lt_succ hk) c hc i

theorem unifyAux_snd (shift : Bool) (rest : List (Sec ℝ)) : ∀ (acc : Mesh ℝ) (n : ℕ) (prev s : Sec ℝ),
    (unifyAux shift acc n prev (s :: rest)).2 = n + totalNy (s :: rest) := by
  induction rest with
  | nil => intro acc n prev s; rfl
  | cons s' rest ih =>
    intro acc n prev s
    exact (ih _ _ s s').trans (Nat.add_assoc _ _ _)

/-- number of spanwise nodes of the unified mesh (`compute_uni_mesh_dims`) -/
theorem c14_unify_ny (shift : Bool) : ∀ (secs : List (Sec ℝ)), (unify shift secs).2 = totalNy secs
  | [] => rfl
  | [_] => rfl
  | s :: s' :: rest => unifyAux_snd shift rest s.mesh (s.ny - 1) s s'

/-- non-vacuity: two flat sections cut from one surface are C0-continuous -/
example : C0 [⟨3, fun i j => ⟨(i : ℝ), (j : ℝ), 0⟩⟩, ⟨2, fun i j => ⟨(i : ℝ), (j : ℝ) + 2, 0⟩⟩] := by
  refine ⟨fun i => ?_, trivial⟩
  ext <;> simp

end C14Unify
end OAS
