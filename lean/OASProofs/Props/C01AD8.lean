import OASProofs.Props.C01AD5
import OASProofs.Props.C01AD6

/-!
# C01 (continued)  Exactness of the derivative oracle: the whole `MomentCoefficient.compute`

`C01AD5` proves exactness for the mean aerodynamic chord and the moment of one surface.  Here the loop over the surface list
(`moment`, a left fold) and the normalisation `CM = M / (½ ρ v² S_ref_total · MAC_wing)` are composed: the dual-number evaluation of
the model of the whole component is the derivative of its real-number instantiation w.r.t. every input of every surface, `cg`, `rho`,
`v` and `S_ref_total`, for any number of surfaces.
-/
set_option linter.unusedSectionVars false
set_option linter.unusedSimpArgs false
set_option linter.unusedTactic false
set_option linter.unreachableTactic false
namespace OAS
namespace C01AD
open AD MomentCoefficient

variable {t : ℝ}

/-- the left fold over the surface list, from any tracked accumulator -/
theorem momentFold_exact {cg : V3 (Dual ℝ)} {fcg : ℝ → V3 ℝ} (hcg : TracksV cg fcg t) :
    ∀ (as : List (Surf (Dual ℝ))) (fs : List (ℝ → Surf ℝ)), List.Forall₂ (fun a f => TracksMC a f t) as fs →
    ∀ (acc : V3 (Dual ℝ)) (facc : ℝ → V3 ℝ), TracksV acc facc t →
      TracksV (as.foldl (fun acc s => acc + surfMoment s cg) acc)
        (fun s => (fs.map (fun f => f s)).foldl (fun acc x => acc + surfMoment x (fcg s)) (facc s)) t
  | [], [], _, acc, facc, h => h
  | a :: as, f :: fs, hl, acc, facc, h => by
    cases hl with
    | cons haf hrest =>
      simp only [List.foldl_cons, List.map_cons]
      exact momentFold_exact hcg as fs hrest (acc + surfMoment a cg) (fun s => facc s + surfMoment (f s) (fcg s))
        (h.add (surfMoment_exact haf hcg))

/-- `M`, the total moment about the reference point, for any list of surfaces -/
theorem moment_exact {cg : V3 (Dual ℝ)} {fcg : ℝ → V3 ℝ} (hcg : TracksV cg fcg t) (as : List (Surf (Dual ℝ)))
    (fs : List (ℝ → Surf ℝ)) (hl : List.Forall₂ (fun a f => TracksMC a f t) as fs) :
    TracksV (moment as cg) (fun s => moment (fs.map (fun f => f s)) (fcg s)) t := by
  unfold moment
  exact momentFold_exact hcg as fs hl 0 (fun _ => 0) .zero

/-- **`MomentCoefficient.compute`**: `CM` w.r.t. everything, at least one surface, non-zero dynamic pressure, reference area and
mean aerodynamic chord -/
theorem cm_exact {cg : V3 (Dual ℝ)} {fcg : ℝ → V3 ℝ} (hcg : TracksV cg fcg t) (a : Surf (Dual ℝ)) (f : ℝ → Surf ℝ)
    (as : List (Surf (Dual ℝ))) (fs : List (ℝ → Surf ℝ)) (ha : TracksMC a f t)
    (hl : List.Forall₂ (fun a f => TracksMC a f t) as fs) {rho v S : Dual ℝ} {fr fv fS : ℝ → ℝ}
    (hr : Tracks rho fr t) (hv : Tracks v fv t) (hS : Tracks S fS t) (hS0 : (f t).sRef ≠ 0)
    (hq : dec 1 2 * fr t * (fv t * fv t) * fS t * mac (f t) ≠ 0) :
    TracksV (cm (a :: as) cg rho v S) (fun s => cm ((f :: fs).map (fun g => g s)) (fcg s) (fr s) (fv s) (fS s)) t := by
  have hM := moment_exact hcg (a :: as) (f :: fs) (List.Forall₂.cons ha hl)
  have hmac := mac_exact ha hS0
  have hq' : Tracks (dec 1 2 * rho * (v * v) * S * mac a) (fun s => dec 1 2 * fr s * (fv s * fv s) * fS s * mac (f s)) t := by
    track
  simp only [cm, List.map_cons]
  exact ⟨hM.x.div hq' hq, hM.y.div hq' hq, hM.z.div hq' hq⟩

end C01AD
end OAS

/-! ### the whole `EvalVelMtx` entry: ground images, symmetric fold, right-wing flip, wake direction from `alpha` -/
namespace OAS
namespace C01AD
open AD VLM

variable {t : ℝ}

/-- wake direction w.r.t. the angle of attack -/
theorem wakeDir_exact {a : Dual ℝ} {fa : ℝ → ℝ} (ha : Tracks a fa t) : TracksV (wakeDir a) (fun s => wakeDir (fa s)) t := by
  have h180 : ((180 : ℕ) : ℝ) ≠ 0 := by norm_num
  simp only [wakeDir, deg2rad]; track

section
variable (nx ny : ℕ) (sym left ground : Bool) (m : Mesh (Dual ℝ)) (fm : ℝ → Mesh ℝ)
variable {u : V3 (Dual ℝ)} {fu : ℝ → V3 ℝ} {vm : Mesh (Dual ℝ)} {fvm : ℝ → Mesh ℝ} {p : V3 (Dual ℝ)} {fp : ℝ → V3 ℝ}

/-- ring minus its ground image (the image lattice occupies rows `nx …` of the vortex mesh) -/
theorem velRaw_exact (hu : TracksV u fu t) (hvm : ∀ i j, TracksV (vm i j) (fun s => fvm s i j) t) (hp : TracksV p fp t) (i j : ℕ)
    (h0 : RingOK (fu t) (fvm t) 0 (fp t) i j) (h1 : ground = true → RingOK (fu t) (fvm t) nx (fp t) i j) :
    TracksV (velRaw ⟨nx, ny, sym, left, ground, m⟩ u vm p i j)
      (fun s => velRaw ⟨nx, ny, sym, left, ground, fm s⟩ (fu s) (fvm s) (fp s) i j) t := by
  have hA := latticeVel_exact nx 0 hu hvm hp i j h0
  cases ground
  · simpa only [velRaw, Bool.false_eq_true, if_false] using hA
  · have hB := latticeVel_exact nx nx hu hvm hp i j (h1 rfl)
    simpa only [velRaw, if_true] using hA.sub hB

/-- **one entry `vel_mtx[p, i, j, :]` of `EvalVelMtx.compute`** w.r.t. `alpha`, the evaluation point and the whole vortex mesh:
ground images, the symmetric fold `res[:ny−1] + res[ny−1:][::−1]` and the right-wing flip included, for every surface size -/
theorem velMtx_exact {a : Dual ℝ} {fa : ℝ → ℝ} (ha : Tracks a fa t) (hvm : ∀ i j, TracksV (vm i j) (fun s => fvm s i j) t)
    (hp : TracksV p fp t) (i j : ℕ)
    (hok : ∀ r0 jj, RingOK (wakeDir (fa t)) (fvm t) r0 (fp t) i jj) :
    TracksV (velMtx ⟨nx, ny, sym, left, ground, m⟩ a vm p i j)
      (fun s => velMtx ⟨nx, ny, sym, left, ground, fm s⟩ (fa s) (fvm s) (fp s) i j) t := by
  have hu := wakeDir_exact ha
  have hR : ∀ jj, TracksV (velRaw ⟨nx, ny, sym, left, ground, m⟩ (wakeDir a) vm p i jj)
      (fun s => velRaw ⟨nx, ny, sym, left, ground, fm s⟩ (wakeDir (fa s)) (fvm s) (fp s) i jj) t :=
    fun jj => velRaw_exact nx ny sym left ground m fm hu hvm hp i jj (hok 0 jj) (fun _ => hok nx jj)
  cases sym
  · simpa only [velMtx, Bool.false_eq_true, if_false] using hR j
  · simp only [velMtx, if_true]
    exact (hR _).add (hR _)
end

end C01AD
end OAS
