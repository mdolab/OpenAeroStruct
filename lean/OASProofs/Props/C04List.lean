import OASProofs.Props.C04System
import OASProofs.Lemmas.Perm

/-!
# C04 (continued)  Lists of several symmetric surfaces

`c04_half_solution_solves_full` is about one surface.  Here the whole list of surfaces is symmetric (each one a left half with
its root edge on the symmetry plane, no ground effect): the full-span model is `l.map fullOf` – the same surfaces, in the same
order, each described full span.  The unknowns of surface `k` start at `Σ_{t<k} npanels t` in the half model and at twice that in
the full model; `halfIdx` is the map from a full-model unknown to the half-model unknown that carries its value (the code's
running offsets together with the spanwise fold of each surface).  If `Γ` solves the half model's system then `Γ ∘ halfIdx` solves
the full model's system, for any number of surfaces of any sizes.
-/
set_option linter.unusedSectionVars false
set_option linter.unusedSimpArgs false
namespace OAS
namespace C04
open VLM Finset

theorem npanels_full (s : Surf ℝ) (h : Half s) : (fullOf s).npanels = 2 * s.npanels := by
  have := h.ny
  unfold Surf.npanels
  rw [full_ny s h]
  have e : 2 * s.ny - 2 = 2 * (s.ny - 1) := by omega
  rw [e]; simp only [fullOf]; ring

theorem influence_cons_lt (s : Surf ℝ) (rest : List (Surf ℝ)) (f : Flow ℝ) (p : V3 ℝ) (n : ℕ) (hn : n < s.npanels) :
    influence (s :: rest) f p n = influence [s] f p n := by
  simp [influence, locate, hn]

theorem influence_cons_ge (s : Surf ℝ) (rest : List (Surf ℝ)) (f : Flow ℝ) (p : V3 ℝ) (n : ℕ) :
    influence (s :: rest) f p (s.npanels + n) = influence rest f p n := by
  have h : ¬ (s.npanels + n < s.npanels) := by omega
  simp [influence, locate, h]

theorem totalPanels_cons (s : Surf ℝ) (rest : List (Surf ℝ)) : totalPanels (s :: rest) = s.npanels + totalPanels rest := by
  simp [totalPanels]

/-- the induction of a list is that of its first surface plus that of the rest with the unknowns shifted by the first surface's
panel count (the running offset `ind_1`) -/
theorem indVel_cons (s : Surf ℝ) (rest : List (Surf ℝ)) (f : Flow ℝ) (γ : ℕ → ℝ) (p : V3 ℝ) :
    indVel (s :: rest) f γ p = indVel [s] f γ p + indVel rest f (fun n => γ (s.npanels + n)) p := by
  have h1 : totalPanels [s] = s.npanels := by simp [totalPanels]
  ext <;>
  · simp only [indVel, totalPanels_cons, h1, V3.add_x, V3.add_y, V3.add_z, V3.sumTo_x, V3.sumTo_y, V3.sumTo_z, V3.smul_x, V3.smul_y,
      V3.smul_z]
    rw [Finset.sum_range_add]
    congr 1
    · exact Finset.sum_congr rfl (fun n hn => by rw [influence_cons_lt s rest f p n (Finset.mem_range.mp hn)])
    · exact Finset.sum_congr rfl (fun n _ => by rw [influence_cons_ge])

theorem indVel_congr (l : List (Surf ℝ)) (f : Flow ℝ) (g g' : ℕ → ℝ) (p : V3 ℝ) (h : ∀ n, n < totalPanels l → g n = g' n) :
    indVel l f g p = indVel l f g' p := by
  unfold indVel
  exact V3.sumTo_ext _ _ _ (fun n hn => by rw [h n hn])

/-- full-model unknown ↦ half-model unknown carrying its value -/
def halfIdx : List (Surf ℝ) → ℕ → ℕ
  | [], M => M
  | s :: rest, M =>
    if M < 2 * s.npanels then (M / (2 * s.ny - 2)) * (s.ny - 1) + foldCol s.ny (M % (2 * s.ny - 2))
    else s.npanels + halfIdx rest (M - 2 * s.npanels)

theorem gammaExt_eq (s : Surf ℝ) (γ : ℕ → ℝ) (M : ℕ) :
    gammaExt s γ M = γ ((M / (2 * s.ny - 2)) * (s.ny - 1) + foldCol s.ny (M % (2 * s.ny - 2))) := rfl

/-- **the full-span list with the extended circulations induces what the half-span list induces** -/
theorem indVel_fullList : ∀ (l : List (Surf ℝ)), (∀ s ∈ l, Half s) → ∀ (f : Flow ℝ) (γ : ℕ → ℝ) (p : V3 ℝ),
    indVel (l.map fullOf) f (fun M => γ (halfIdx l M)) p = indVel l f γ p
  | [], _, f, γ, p => rfl
  | s :: rest, hl, f, γ, p => by
    have hs : Half s := hl s (by simp)
    have hr : ∀ t ∈ rest, Half t := fun t ht => hl t (by simp [ht])
    rw [List.map_cons, indVel_cons (fullOf s) (rest.map fullOf), indVel_cons s rest]
    congr 1
    · rw [← indVel_full_eq_half s hs]
      apply indVel_congr
      intro n hn
      have : n < 2 * s.npanels := by simpa [totalPanels, npanels_full s hs] using hn
      simp only [halfIdx, this, if_true, gammaExt_eq]
    · rw [← indVel_fullList rest hr f (fun n => γ (s.npanels + n)) p]
      apply indVel_congr
      intro n _
      have h : ¬ ((fullOf s).npanels + n < 2 * s.npanels) := by rw [npanels_full s hs]; omega
      have e : (fullOf s).npanels + n - 2 * s.npanels = n := by rw [npanels_full s hs]; omega
      simp only [halfIdx, h, if_false, e]

/-- **… and its induced velocity field is mirror symmetric** -/
theorem indVel_fullList_mirror : ∀ (l : List (Surf ℝ)), (∀ s ∈ l, Half s) → ∀ (f : Flow ℝ) (γ : ℕ → ℝ) (p : V3 ℝ),
    indVel (l.map fullOf) f (fun M => γ (halfIdx l M)) (mirrorY p) = mirrorY (indVel (l.map fullOf) f (fun M => γ (halfIdx l M)) p)
  | [], _, f, γ, p => by ext <;> simp [indVel, totalPanels, mirrorY]
  | s :: rest, hl, f, γ, p => by
    have hs : Half s := hl s (by simp)
    have hr : ∀ t ∈ rest, Half t := fun t ht => hl t (by simp [ht])
    rw [List.map_cons, indVel_cons (fullOf s) (rest.map fullOf), indVel_cons (fullOf s) (rest.map fullOf), mirrorY_add]
    have e1 : ∀ q, indVel [fullOf s] f (fun M => γ (halfIdx (s :: rest) M)) q = indVel [fullOf s] f (gammaExt s γ) q := by
      intro q
      apply indVel_congr
      intro n hn
      have : n < 2 * s.npanels := by simpa [totalPanels, npanels_full s hs] using hn
      simp only [halfIdx, this, if_true, gammaExt_eq]
    have e2 : ∀ q, indVel (rest.map fullOf) f (fun n => γ (halfIdx (s :: rest) ((fullOf s).npanels + n))) q
        = indVel (rest.map fullOf) f (fun M => (fun n => γ (s.npanels + n)) (halfIdx rest M)) q := by
      intro q
      apply indVel_congr
      intro n _
      have h : ¬ ((fullOf s).npanels + n < 2 * s.npanels) := by rw [npanels_full s hs]; omega
      have e : (fullOf s).npanels + n - 2 * s.npanels = n := by rw [npanels_full s hs]; omega
      simp only [halfIdx, h, if_false, e]
    rw [e1, e1, e2, e2, indVel_full_mirror s hs, indVel_fullList_mirror rest hr f (fun n => γ (s.npanels + n)) p]

/-- where a full-model unknown lives, and where the half-model unknown that carries its value lives -/
theorem locate_fullList : ∀ (l : List (Surf ℝ)), (∀ s ∈ l, Half s) → ∀ M, M < totalPanels (l.map fullOf) →
    ∃ s i J, s ∈ l ∧ i < s.nx - 1 ∧ J < 2 * s.ny - 2 ∧ locate (l.map fullOf) M = some (fullOf s, i, J) ∧
      locate l (halfIdx l M) = some (s, i, foldCol s.ny J) ∧
      (1 ≤ i → halfIdx l (M - (2 * s.ny - 2)) = halfIdx l M - (s.ny - 1))
  | [], _, M, hM => by simp [totalPanels] at hM
  | s :: rest, hl, M, hM => by
    have hs : Half s := hl s (by simp)
    have hr : ∀ t ∈ rest, Half t := fun t ht => hl t (by simp [ht])
    have hny := hs.ny
    have hb0 : 0 < 2 * s.ny - 2 := by omega
    by_cases h1 : M < 2 * s.npanels
    · refine ⟨s, M / (2 * s.ny - 2), M % (2 * s.ny - 2), by simp, ?_, Nat.mod_lt _ hb0, ?_, ?_, ?_⟩
      · have : M < (s.nx - 1) * (2 * s.ny - 2) := by
          have e : 2 * s.ny - 2 = 2 * (s.ny - 1) := by omega
          rw [e]; unfold Surf.npanels at h1; nlinarith
        exact Nat.div_lt_of_lt_mul (by rw [Nat.mul_comm]; exact this)
      · have hlt : M < (fullOf s).npanels := by rw [npanels_full s hs]; exact h1
        simp only [List.map_cons, locate, hlt, if_true, full_ny s hs]
      · have hf : foldCol s.ny (M % (2 * s.ny - 2)) < s.ny - 1 := by
          have := Nat.mod_lt M hb0
          simp only [foldCol]; split_ifs <;> omega
        obtain ⟨d1, d2⟩ := div_mod_of_lt (M / (2 * s.ny - 2)) (foldCol s.ny (M % (2 * s.ny - 2))) (s.ny - 1) hf
        have hi : M / (2 * s.ny - 2) < s.nx - 1 := by
          have : M < (s.nx - 1) * (2 * s.ny - 2) := by
            have e : 2 * s.ny - 2 = 2 * (s.ny - 1) := by omega
            rw [e]; unfold Surf.npanels at h1; nlinarith
          exact Nat.div_lt_of_lt_mul (by rw [Nat.mul_comm]; exact this)
        have hlt : M / (2 * s.ny - 2) * (s.ny - 1) + foldCol s.ny (M % (2 * s.ny - 2)) < s.npanels := by
          unfold Surf.npanels
          calc M / (2 * s.ny - 2) * (s.ny - 1) + foldCol s.ny (M % (2 * s.ny - 2))
              < M / (2 * s.ny - 2) * (s.ny - 1) + (s.ny - 1) := by omega
            _ = (M / (2 * s.ny - 2) + 1) * (s.ny - 1) := by ring
            _ ≤ (s.nx - 1) * (s.ny - 1) := Nat.mul_le_mul_right _ (by omega)
        simp only [halfIdx, h1, if_true, locate, hlt, d1, d2]
      · intro hi1
        have hJ := Nat.mod_lt M hb0
        obtain ⟨k, hk⟩ : ∃ k, M / (2 * s.ny - 2) = k + 1 := ⟨M / (2 * s.ny - 2) - 1, by omega⟩
        have hM0 : M = (k + 1) * (2 * s.ny - 2) + M % (2 * s.ny - 2) := by
          have := (Nat.div_add_mod M (2 * s.ny - 2)).symm
          rw [hk, Nat.mul_comm] at this; exact this
        have hM1 : M - (2 * s.ny - 2) = k * (2 * s.ny - 2) + M % (2 * s.ny - 2) := by
          rw [Nat.succ_mul] at hM0; omega
        obtain ⟨e1, e2⟩ := div_mod_of_lt k (M % (2 * s.ny - 2)) (2 * s.ny - 2) hJ
        have hlt' : M - (2 * s.ny - 2) < 2 * s.npanels := by omega
        have lhs : halfIdx (s :: rest) (M - (2 * s.ny - 2)) = k * (s.ny - 1) + foldCol s.ny (M % (2 * s.ny - 2)) := by
          simp only [halfIdx, hlt', if_true]; rw [hM1, e1, e2]
        have rhs : halfIdx (s :: rest) M = (k + 1) * (s.ny - 1) + foldCol s.ny (M % (2 * s.ny - 2)) := by
          simp only [halfIdx, h1, if_true, hk]
        have hsm : (k + 1) * (s.ny - 1) = k * (s.ny - 1) + (s.ny - 1) := Nat.succ_mul _ _
        rw [lhs, rhs, hsm]; omega
    · have hM' : M - 2 * s.npanels < totalPanels (rest.map fullOf) := by
        simp only [List.map_cons, totalPanels_cons, npanels_full s hs] at hM; omega
      obtain ⟨t, i, J, ht, hi, hJ, hF, hH, hR⟩ := locate_fullList rest hr (M - 2 * s.npanels) hM'
      refine ⟨t, i, J, by simp [ht], hi, hJ, ?_, ?_, ?_⟩
      · have hlt : ¬ (M < (fullOf s).npanels) := by rw [npanels_full s hs]; exact h1
        simp only [List.map_cons, locate, hlt, if_false, npanels_full s hs, h1]
        exact hF
      · have h2 : ¬ (s.npanels + halfIdx rest (M - 2 * s.npanels) < s.npanels) := by omega
        simp only [halfIdx, h1, if_false, locate, h2, Nat.add_sub_cancel_left]
        exact hH
      · intro hi1
        have hth : Half t := hr t ht
        have hge : 2 * t.ny - 2 ≤ M - 2 * s.npanels := by
          have := locate_row_pos _ _ _ _ _ hF hi1
          rwa [full_ny t hth] at this
        have hge2 : t.ny - 1 ≤ halfIdx rest (M - 2 * s.npanels) := locate_row_pos _ _ _ _ _ hH hi1
        have h3 : ¬ (M - (2 * t.ny - 2) < 2 * s.npanels) := by omega
        have e : M - (2 * t.ny - 2) - 2 * s.npanels = M - 2 * s.npanels - (2 * t.ny - 2) := by omega
        simp only [halfIdx, h1, h3, if_false, e, hR hi1]
        omega

/-- **The half-span solution of a list of symmetric surfaces is the full-span solution**: if `Γ` solves the system of the list of
half models then `Γ ∘ halfIdx` solves the system of the list of full-span models – any number of surfaces, any sizes, any
(root-on-plane) geometries, any angle of attack; zero sideslip, no rotation rates -/
theorem c04_half_list_solves_full (l : List (Surf ℝ)) (hl : ∀ s ∈ l, Half s) (f : Flow ℝ) (hb : f.beta = 0)
    (hr : f.rotational = false) (γ : ℕ → ℝ) (hs : Solves l f γ) :
    Solves (l.map fullOf) f (fun M => γ (halfIdx l M)) := by
  intro M hM
  obtain ⟨s, i, J, hsl, hi, hJ, hF, hH, _⟩ := locate_fullList l hl M hM
  have h : Half s := hl s hsl
  have hny := h.ny
  have hmlt : halfIdx l M < totalPanels l := (locate_isSome_iff l _).1 (by rw [hH]; rfl)
  have hrow := hs (halfIdx l M) hmlt
  rw [row_eq l f γ _ s i _ hH] at hrow
  simp only [rhs, hH] at hrow
  rw [row_eq (l.map fullOf) f _ M (fullOf s) i J hF]
  simp only [rhs, hF]
  by_cases hJl : J < s.ny - 1
  · have hfold : foldCol s.ny J = J := by simp [foldCol, hJl]
    rw [hfold] at hrow
    rw [collPt_full_left s h i J hJl, normal_full_left s h i J hJl, indVel_fullList l hl]
    exact hrow
  · have hfold : foldCol s.ny J = 2 * s.ny - 3 - J := by simp [foldCol, hJl]
    rw [hfold] at hrow
    rw [collPt_full_right s h i J (by omega) hJ, normal_full_right s h i J (by omega) hJ,
      indVel_fullList_mirror l hl, dot_mirrorY, indVel_fullList l hl, hrow]
    simp only [onset, hr, Bool.false_eq_true, if_false]
    rw [← freestream_mirror f hb, dot_mirrorY, freestream_mirror f hb]


/-- **… and every panel of the modelled halves receives the same force in the two models** -/
theorem c04_half_list_forces_eq_full (l : List (Surf ℝ)) (hl : ∀ s ∈ l, Half s) (f : Flow ℝ) (γ : ℕ → ℝ) (M : ℕ)
    (hM : M < totalPanels (l.map fullOf)) :
    ∀ s i J, locate (l.map fullOf) M = some (fullOf s, i, J) → s ∈ l → J < s.ny - 1 →
      panelForce (l.map fullOf) f (fun M => γ (halfIdx l M)) M = panelForce l f γ (halfIdx l M) := by
  obtain ⟨s, i, J, hsl, hi, hJ, hF, hH, hR⟩ := locate_fullList l hl M hM
  intro s' i' J' hF' hs' hJ'
  rw [hF] at hF'
  simp only [Option.some.injEq, Prod.mk.injEq] at hF'
  obtain ⟨hss, rfl, rfl⟩ := hF'
  have h : Half s := hl s hsl
  have hny_eq : s'.ny = s.ny := by
    have : (fullOf s).ny = (fullOf s').ny := by rw [hss]
    simp only [fullOf] at this; have := (hl s' hs').ny; have := h.ny; omega
  have hJl : J < s.ny - 1 := by rw [← hny_eq]; exact hJ'
  have hfold : foldCol s.ny J = J := by simp [foldCol, hJl]
  rw [hfold] at hH
  simp only [panelForce, hF, hH, forcePtVelocity_eq _ f _ _ _ i J hF, forcePtVelocity_eq _ f _ _ _ i J hH,
    collPt_full_left s h i J hJl, forcePt_full_left s h i J hJl, boundVec_full_left s h i J hJl, indVel_fullList l hl]
  congr 2
  simp only [horseshoe, hF, hH, full_ny s h]
  split_ifs with h1
  · rw [hR h1]
  · rfl

/-! ### one surface: the list theorems at `[s]` -/

/-- the single-surface theorem is the one-element instance -/
example (s : Surf ℝ) (M : ℕ) (hM : M < 2 * s.npanels) (γ : ℕ → ℝ) : γ (halfIdx [s] M) = gammaExt s γ M := by
  simp [halfIdx, hM, gammaExt]

theorem halfIdx_single (s : Surf ℝ) (h : Half s) (M : ℕ) (hM : M < totalPanels [fullOf s]) :
    halfIdx [s] M = M / (2 * s.ny - 2) * (s.ny - 1) + foldCol s.ny (M % (2 * s.ny - 2)) := by
  have : M < 2 * s.npanels := by simpa [totalPanels, npanels_full s h] using hM
  simp only [halfIdx, this, if_true]

/-- **The half-span solution is the full-span solution.**  If `Γ` solves the linear system of the symmetric (half)
model then its symmetric extension solves the linear system of the full-span model – for any numbers of chordwise and
spanwise panels, any (root-on-plane) geometry, any angle of attack. -/
theorem c04_half_solution_solves_full (s : Surf ℝ) (h : Half s) (f : Flow ℝ) (hb : f.beta = 0)
    (hr : f.rotational = false) (gamma : ℕ → ℝ) (hs : Solves [s] f gamma) :
    Solves [fullOf s] f (gammaExt s gamma) := by
  intro M hM
  refine Eq.trans (Finset.sum_congr rfl fun n hn => ?_)
    (c04_half_list_solves_full [s] (fun t ht => by rwa [List.mem_singleton.mp ht]) f hb hr gamma hs M hM)
  exact congrArg (fun k => aic [fullOf s] f M n * gamma k) (halfIdx_single s h n (Finset.mem_range.mp hn)).symm

/-- **… and every panel of the modelled half receives the same force in the two models.** -/
theorem c04_half_forces_eq_full (s : Surf ℝ) (h : Half s) (f : Flow ℝ) (gamma : ℕ → ℝ) (i J : ℕ)
    (hi : i < s.nx - 1) (hJ : J < s.ny - 1) :
    panelForce [fullOf s] f (gammaExt s gamma) (i * (2 * s.ny - 2) + J) = panelForce [s] f gamma (i * (s.ny - 1) + J) := by
  have hJ2 : J < 2 * s.ny - 2 := by omega
  have hloc := locate_full s h i J hi hJ2
  have hM : i * (2 * s.ny - 2) + J < totalPanels [fullOf s] := (locate_isSome_iff _ _).1 (by rw [hloc]; rfl)
  have key : panelForce [fullOf s] f (fun M => gamma (halfIdx [s] M)) _ = _ :=
    c04_half_list_forces_eq_full [s] (fun t ht => by rwa [List.mem_singleton.mp ht]) f gamma _ hM s i J hloc
      List.mem_cons_self hJ
  rw [panelForce_congr (gamma := gammaExt s gamma) _ f fun n hn => congrArg gamma (halfIdx_single s h n hn).symm, key,
    halfIdx_single s h _ hM, (div_mod_of_lt i J _ hJ2).1, (div_mod_of_lt i J _ hJ2).2]
  simp only [foldCol, hJ, if_true]

end C04
end OAS
