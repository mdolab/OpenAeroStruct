import OASProofs.Lemmas.Kernel
import OASProofs.Lemmas.Reflection

/-!
# C08  Ground effect equals the method of images

Model: `OASModel/VLM.lean` (`groundReflect`, `vortexMesh`, `velRaw`).
-/
set_option linter.unusedSectionVars false
set_option linter.unusedSimpArgs false
namespace OAS
namespace C08
open VLM

/-- unit normal of the ground plane `(sin α, 0, −cos α)` (α in radians) -/
noncomputable def planeNormal (a : ℝ) : V3 ℝ := ⟨Real.sin a, 0, -Real.cos a⟩

theorem planeNormal_unit (a : ℝ) : V3.dot (planeNormal a) (planeNormal a) = 1 := by
  simp only [V3.dot, planeNormal]; linear_combination Real.sin_sq_add_cos_sq a

/-- `VortexMesh`'s ground image is the reflection with unit normal `n` about the point `h·n` of the ground plane -/
theorem groundReflect_eq (a h : ℝ) (m : V3 ℝ) :
    groundReflect a h m = reflN (planeNormal a) (m - V3.smul h (planeNormal a)) + V3.smul h (planeNormal a) := by
  ext <;> simp only [groundReflect, reflN, planeNormal, V3.dot, V3.sub_x, V3.sub_y, V3.sub_z, V3.add_x, V3.add_y, V3.add_z, V3.smul_x,
    V3.smul_y, V3.smul_z, elem_sin, elem_cos, Nat.cast_ofNat] <;> ring

/-- **the ground image is an involution** -/
theorem c08_reflect_involution (a h : ℝ) (m : V3 ℝ) : groundReflect a h (groundReflect a h m) = m := by
  rw [groundReflect_eq, groundReflect_eq, add_sub_cancel_right, reflN_reflN (planeNormal_unit a), sub_add_cancel]

/-- **it is an isometry**: distances between points are preserved -/
theorem c08_reflect_isometry (a h : ℝ) (m1 m2 : V3 ℝ) :
    V3.normSq (groundReflect a h m1 - groundReflect a h m2) = V3.normSq (m1 - m2) := by
  have hR := reflN_isOrtho _ (planeNormal_unit a)
  rw [groundReflect_eq, groundReflect_eq, add_sub_add_right_eq_sub, ← hR.sub, sub_sub_sub_cancel_right]
  exact hR.dot _ _

/-- **points of the plane through `h·n` with normal `n` are fixed** -/
theorem c08_reflect_fixes_plane (a h : ℝ) (m : V3 ℝ)
    (hm : V3.dot (m - V3.smul h (planeNormal a)) (planeNormal a) = 0) : groundReflect a h m = m := by
  rw [groundReflect_eq, reflN_of_dot_eq_zero hm, sub_add_cancel]

/-- the signed distance of the image to the plane is the opposite of the original distance: the image lies
as far below the plane (which is at height `h` below the origin) as the surface lies above it -/
theorem c08_reflect_distance (a h : ℝ) (m : V3 ℝ) :
    V3.dot (groundReflect a h m - V3.smul h (planeNormal a)) (planeNormal a)
      = -V3.dot (m - V3.smul h (planeNormal a)) (planeNormal a) := by
  rw [groundReflect_eq, add_sub_cancel_right, reflN_dot_normal (planeNormal_unit a)]

/-- **the plane is parallel to the free stream / wake direction**: `u · n = 0`, so the wake direction is
invariant under the (linear part of the) reflection and the image wake legs are parallel to the real ones -/
theorem c08_plane_parallel_to_wake (alphaDeg : ℝ) :
    V3.dot (wakeDir alphaDeg) (planeNormal (deg2rad alphaDeg)) = 0 := by
  simp [wakeDir, planeNormal, V3.dot]; ring

theorem vortexMesh_ground_rows (s : Surf ℝ) (hg : s.ground = true) (a h : ℝ) (r c : ℕ) :
    (r < s.nx → vortexMesh s a h r c = shiftQuarter s.nx (extMesh s) r c) ∧
    vortexMesh s a h (s.nx + r) c = shiftQuarter s.nx (fun i j => groundReflect a h (extMesh s i j)) r c := by
  constructor
  · intro hr
    simp [vortexMesh, hg, hr]
  · simp [vortexMesh, hg]

/-- **Method of images**: with ground effect the influence of ring `(i, jj)` of a surface is the influence
of its own lattice minus the influence of the image lattice (image rings carry the opposite circulation),
and the image lattice is the ring mesh of the surface reflected across the ground plane. -/
theorem c08_images (s : Surf ℝ) (hg : s.ground = true) (u : V3 ℝ) (a h : ℝ) (p : V3 ℝ) (i jj : ℕ) (hi : i + 1 < s.nx) :
    velRaw s u (vortexMesh s a h) p i jj
      = latticeVel s.nx u (shiftQuarter s.nx (extMesh s)) 0 p i jj
        - latticeVel s.nx u (shiftQuarter s.nx (fun r c => groundReflect a h (extMesh s r c))) 0 p i jj := by
  have hi0 : i < s.nx := by omega
  have r1 := fun c => (vortexMesh_ground_rows s hg a h i c).1 hi0
  have r2 := fun c => (vortexMesh_ground_rows s hg a h (i + 1) c).1 hi
  have g1 := fun c => (vortexMesh_ground_rows s hg a h i c).2
  have g2 := fun c => (vortexMesh_ground_rows s hg a h (i + 1) c).2
  unfold velRaw
  simp only [hg, if_true]
  unfold latticeVel ring trailing
  simp only [Nat.zero_add, r1, r2, g1, g2]

end C08
end OAS
