import OASProofs.Lemmas.Basic
import OASProofs.Lemmas.Dec
import OASProofs.Generated.Formulas

/-!
# Translated formulas = model: LiftDrag, Reynolds number, centre of gravity, structural-weight loads, `g`

Continuation of `C15Formulas` … `C11Formulas` for statements of `lift_drag.py` (the summands of the two `np.sum`), `reynolds_comp.py`,
`center_of_gravity.py`, `wing_weight_loads.py` and the module-level constant `grav_constant` of `utils/constants.py`.
-/
set_option linter.unusedSectionVars false
set_option linter.unusedSimpArgs false
namespace OAS
namespace Formulas
open Generated

theorem dec_eq'' (a b : ℕ) : (dec a b : ℝ) = (a : ℝ) / (b : ℝ) := dec_def a b

/-- the acceleration of gravity of the code is the one of the model (C16) -/
theorem c16_grav_constant : (F.const_grav : ℝ) = gravConstant := rfl

/-- **`LiftDrag.compute`** (C06, C04): lift and drag are the sums of the code's two summands over all panels, at the code's `alpha`,
`beta` in radians, doubled for a symmetric surface -/
theorem c06_lift_drag (n : ℕ) (sym : Bool) (alpha beta : ℝ) (Fp : ℕ → V3 ℝ) :
    liftDrag n sym alpha beta Fp =
      let a := F.ld_alpha alpha; let b := F.ld_alpha beta
      let L := sumTo n (fun k => F.ld_L_term (Fp k).x (Real.sin a) (Fp k).z (Real.cos a))
      let D := sumTo n (fun k => F.ld_D_term (Fp k).x (Real.cos a) (Real.cos b) (Fp k).y (Real.sin b) (Fp k).z (Real.sin a))
      if sym then (L * ((2 : ℕ) : ℝ), D * ((2 : ℕ) : ℝ)) else (L, D) := by
  have ha : ∀ x : ℝ, deg2rad x = F.ld_alpha x := fun x => by
    simp only [deg2rad, F.ld_alpha, dec_1800_10]
  simp only [liftDrag, ha, F.ld_L_term, F.ld_D_term, elem_sin, elem_cos]

/-- `ReynoldsComp.compute` (C17) -/
theorem c17_reynolds (rho v mu : ℝ) : reynolds rho v mu = F.re_re rho v mu := rfl

/-- `CenterOfGravity.compute` (C17): each component of the centre of gravity is the code's quotient with the code's `g` -/
theorem c17_center_of_gravity (ns : ℕ) (sm : ℕ → ℝ) (cgs : ℕ → V3 ℝ) (tw fb W0 lf : ℝ) (ecg : V3 ℝ) :
    let g := F.cg_g (F.const_grav : ℝ) lf
    let spar := V3.sumTo ns (fun s => V3.smul (sm s) (cgs s))
    (centerOfGravity ns sm cgs tw fb W0 lf ecg).x = F.cg_cg (W0 * ecg.x) spar.x tw g fb ∧
    (centerOfGravity ns sm cgs tw fb W0 lf ecg).y = F.cg_cg (W0 * ecg.y) spar.y tw g fb ∧
    (centerOfGravity ns sm cgs tw fb W0 lf ecg).z = F.cg_cg (W0 * ecg.z) spar.z tw g fb := by
  simp only [centerOfGravity, F.cg_cg, F.cg_g, c16_grav_constant, V3.add_x, V3.add_y, V3.add_z, V3.smul_x, V3.smul_y, V3.smul_z]
  exact ⟨trivial, trivial, trivial⟩

/-- **`StructureWeightLoads.compute`** (C16): the element weights, the nodal half weights and the two consistent end moments of the
model are the code's `struct_weights`, `z_forces_for_each`, `z_moments_for_each`, `bm3`, `bm4` -/
theorem c16_struct_weight_loads (ny : ℕ) (nodes : Pts ℝ) (em : ℕ → ℝ) (lf : ℝ) :
    structWeightLoads ny nodes em lf =
      let W := fun e => F.swl_weights (em e) lf (F.const_grav : ℝ)
      let zm := fun e => F.swl_zm (W e) (elemDelta nodes e).x (elemDelta nodes e).y
      distributedLoads ny (fun e => F.swl_zf (W e))
        (fun e => F.swl_bm3 (zm e) (elemDelta nodes e).y (elemLength nodes e))
        (fun e => F.swl_bm4 (zm e) (elemDelta nodes e).x (elemLength nodes e)) := by
  have h12 : (dec 120 10 : ℝ) = ((12 : ℕ) : ℝ) := dec_tenfold 12
  simp only [structWeightLoads, F.swl_weights, F.swl_zm, F.swl_zf, F.swl_bm3, F.swl_bm4, c16_grav_constant, dec_20_10, h12, elem_sqrt, elem_rpow,
    sqrt_eq_rpow_half]

end Formulas
end OAS
