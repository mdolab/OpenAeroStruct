import OASProofs.Props.C04List
import OASProofs.Props.C07
import OASProofs.Props.C07System

/-!
# C04 (continued)  The right-half model solves the same full-span problem

A symmetric wing may be described by its left half (tip first, root last) or by its right half (root first).  The
right-half description `rightOf s` of the wing whose left half is `s` has the same extended lattice; its panel `j` is
the mirror image of panel `ny − 2 − j` of the left-half model.  Hence: circulations solve the right-half system iff the
spanwise-reversed circulations solve the left-half system, and therefore (by `c04_half_solution_solves_full`) their
symmetric extension solves the full-span system.
-/
set_option linter.unusedSectionVars false
set_option linter.unusedSimpArgs false
namespace OAS
namespace C04
open VLM Finset C07

/-- spanwise reversal of the panel index of a single surface with `ny` nodes -/
def flipIdx (ny m : ℕ) : ℕ := (m / (ny - 1)) * (ny - 1) + (ny - 2 - m % (ny - 1))

theorem flipIdx_at (ny i j : ℕ) (hj : j < ny - 1) : flipIdx ny (i * (ny - 1) + j) = i * (ny - 1) + (ny - 2 - j) := by
  obtain ⟨h1, h2⟩ := div_mod_of_lt i j (ny - 1) hj
  simp only [flipIdx, h1, h2]

theorem velRaw_congr (s : Surf ℝ) (hg : s.ground = false) (u : V3 ℝ) (vm vm' : Mesh ℝ) (p : V3 ℝ) (i jj : ℕ)
    (h : ∀ r c, (r = i ∨ r = i + 1) → (c = jj ∨ c = jj + 1) → vm r c = vm' r c) :
    velRaw s u vm p i jj = velRaw s u vm' p i jj := by
  simp only [velRaw, hg, Bool.false_eq_true, if_false, latticeVel, ring, trailing, Nat.zero_add]
  rw [h i (jj + 1) (Or.inl rfl) (Or.inr rfl), h i jj (Or.inl rfl) (Or.inl rfl), h (i + 1) jj (Or.inr rfl) (Or.inl rfl),
    h (i + 1) (jj + 1) (Or.inr rfl) (Or.inr rfl)]

/-- the ring meshes of the two descriptions coincide (on the `2 ny − 1` columns that exist) -/
theorem vortexMesh_right (s : Surf ℝ) (h : Half s) (a hh : ℝ) (r c : ℕ) (hc : c ≤ 2 * s.ny - 2) :
    vortexMesh (rightOf s) a hh r c = vortexMesh s a hh r c := by
  have hg : (rightOf s).ground = false := h.ground
  have key : ∀ r c, c ≤ 2 * s.ny - 2 → extMesh (rightOf s) r c = extMesh s r c :=
    fun r c hc => c07_ext_left_right s h.sym h.left (by have := h.ny; omega) h.root r c hc
  simp only [vortexMesh, hg, h.ground, Bool.false_eq_true, if_false]
  have e : (rightOf s).nx = s.nx := rfl
  simp only [shiftQuarter, e]
  split_ifs
  · rw [key r c hc, key (r + 1) c hc]
  · exact key r c hc

/-- **the influence of panel `j'` of the right-half model at the mirror image of a point is the mirror image of the
influence of panel `ny − 2 − j'` of the left-half model at the point** -/
theorem velMtx_right_mirror (s : Surf ℝ) (h : Half s) (f : Flow ℝ) (p : V3 ℝ) (i j : ℕ) (hj : j < s.ny - 1) :
    velMtx (rightOf s) f.alpha (vortexMesh (rightOf s) (deg2rad f.alpha) f.h) (mirrorY p) i j
      = mirrorY (velMtx s f.alpha (vortexMesh s (deg2rad f.alpha) f.h) p i (s.ny - 2 - j)) := by
  have hny := h.ny
  rw [c07_left_right_aero s h.sym h.left hny f.alpha _ (mirrorY p) i j (by omega)]
  rw [c04_fold s h.sym, c04_fold s h.sym]
  simp only [h.left, if_true]
  -- replace the right model's ring mesh by the left model's, ring by ring
  have hcg : ∀ jj, jj + 1 ≤ 2 * s.ny - 2 →
      velRaw s (wakeDir f.alpha) (vortexMesh (rightOf s) (deg2rad f.alpha) f.h) (mirrorY p) i jj
        = velRaw s (wakeDir f.alpha) (vortexMesh s (deg2rad f.alpha) f.h) (mirrorY p) i jj := by
    intro jj hjj
    apply velRaw_congr s h.ground
    intro r c _ hc
    exact vortexMesh_right s h _ _ r c (by rcases hc with rfl | rfl <;> omega)
  rw [hcg _ (by omega), hcg _ (by omega)]
  rw [c04_mirror_rows s h.sym h.ground hny h.root f.alpha _ _ p i _ (by omega),
    c04_mirror_rows s h.sym h.ground hny h.root f.alpha _ _ p i _ (by omega), ← mirrorY_add]
  have e1 : 2 * s.ny - 3 - (s.ny - 2 - j) = s.ny - 1 + j := by omega
  have e2 : 2 * s.ny - 3 - (2 * s.ny - 3 - (s.ny - 2 - j)) = s.ny - 2 - j := by omega
  rw [e2, V3.add_comm']

theorem collPt_right (s : Surf ℝ) (i j : ℕ) (hj : j < s.ny - 1) :
    collPt (rightOf s) i j = mirrorY (collPt s i (s.ny - 2 - j)) := by
  have := c07_coll_pt_mirror s (s.ny - 1) i j (by omega)
  have e : s.ny - 1 - 1 - j = s.ny - 2 - j := by omega
  rw [e] at this; exact this

theorem normal_right (s : Surf ℝ) (i j : ℕ) (hj : j < s.ny - 1) :
    normal (rightOf s) i j = mirrorY (normal s i (s.ny - 2 - j)) := by
  have h1 : normal (rightOf s) i (s.ny - 2 - (s.ny - 2 - j)) = mirrorY (normal s i (s.ny - 2 - j)) :=
    normal_mir s i (s.ny - 2 - j) (by omega)
  have e : s.ny - 2 - (s.ny - 2 - j) = j := by omega
  rw [e] at h1
  exact h1

theorem locate_right (s : Surf ℝ) (i j : ℕ) (hi : i < s.nx - 1) (hj : j < s.ny - 1) :
    locate [rightOf s] (i * (s.ny - 1) + j) = some (rightOf s, i, j) :=
  locate_single (rightOf s) i j hi hj

/-- **Circulations that solve the right-half system, reversed spanwise, solve the left-half system** (zero sideslip, no
rotation rates) -/
theorem c04_right_solves_left (s : Surf ℝ) (h : Half s) (f : Flow ℝ) (hb : f.beta = 0) (hr : f.rotational = false)
    (gamma : ℕ → ℝ) (hs : Solves [rightOf s] f gamma) :
    Solves [s] f (fun m => gamma (flipIdx s.ny m)) := by
  have hny := h.ny
  intro m hm
  rw [totalPanels_single] at hm
  have hb0 : 0 < s.ny - 1 := by omega
  set i := m / (s.ny - 1) with hi_def
  set j := m % (s.ny - 1) with hj_def
  have hmeq : m = i * (s.ny - 1) + j := by rw [hi_def, hj_def, Nat.mul_comm]; exact (Nat.div_add_mod m _).symm
  have hj : j < s.ny - 1 := Nat.mod_lt _ hb0
  have hi : i < s.nx - 1 := by rw [hi_def]; exact Nat.div_lt_of_lt_mul (by rw [Nat.mul_comm]; exact hm)
  have hjf : s.ny - 2 - j < s.ny - 1 := by omega
  have hlocL := locate_single s i j hi hj
  rw [← hmeq] at hlocL
  -- the corresponding row of the right-half system
  have hlocR := locate_right s i (s.ny - 2 - j) hi hjf
  have hrow := hs (i * (s.ny - 1) + (s.ny - 2 - j)) (by
    have := (locate_isSome_iff [rightOf s] (i * (s.ny - 1) + (s.ny - 2 - j))).1 (by rw [hlocR]; rfl); exact this)
  rw [row_eq [rightOf s] f gamma _ (rightOf s) i _ hlocR] at hrow
  simp only [rhs, hlocR] at hrow
  rw [row_eq [s] f _ m s i j hlocL]
  simp only [rhs, hlocL]
  have e : s.ny - 2 - (s.ny - 2 - j) = j := by omega
  rw [collPt_right s i _ hjf, normal_right s i _ hjf, e] at hrow
  -- induced velocities: right model at the mirrored point = mirror of the left model with reversed circulations
  have hind : indVel [rightOf s] f gamma (mirrorY (collPt s i j))
      = mirrorY (indVel [s] f (fun m => gamma (flipIdx s.ny m)) (collPt s i j)) := by
    rw [indVel_single, indVel_single, ← mirrorY_isOrtho.sum]
    have enx : (rightOf s).nx = s.nx := rfl
    have eny : (rightOf s).ny = s.ny := rfl
    simp only [enx, eny]
    apply V3.sumTo_ext
    intro i' _
    rw [← mirrorY_isOrtho.sum, ← V3.sumTo_reflect (s.ny - 1) (fun k => mirrorY _)]
    apply V3.sumTo_ext
    intro j' hj'
    have hj2 : s.ny - 1 - 1 - j' < s.ny - 1 := by omega
    have e3 : s.ny - 1 - 1 - j' = s.ny - 2 - j' := by omega
    have e4 : s.ny - 2 - (s.ny - 2 - j') = j' := by omega
    rw [velMtx_right_mirror s h f _ i' j' hj', mirrorY_smul, flipIdx_at s.ny i' _ hj2, e3, e4]
  rw [hind, dot_mirrorY] at hrow
  rw [hrow]
  simp only [onset, hr, Bool.false_eq_true, if_false]
  rw [← freestream_mirror f hb, dot_mirrorY, freestream_mirror f hb]

/-- **… hence their symmetric extension solves the full-span system**: the right-half description of a symmetric wing
is equivalent to the full-span model as well. -/
theorem c04_right_half_solution_solves_full (s : Surf ℝ) (h : Half s) (f : Flow ℝ) (hb : f.beta = 0)
    (hr : f.rotational = false) (gamma : ℕ → ℝ) (hs : Solves [rightOf s] f gamma) :
    Solves [fullOf s] f (gammaExt s (fun m => gamma (flipIdx s.ny m))) :=
  c04_half_solution_solves_full s h f hb hr _ (c04_right_solves_left s h f hb hr gamma hs)

end C04
end OAS
