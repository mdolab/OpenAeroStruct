import OASProofs.Props.C04
import OASProofs.Lemmas.System

/-!
# C04 (continued)  The half-span solution *is* the full-span solution

For one symmetric surface (left half modelled, root edge on the symmetry plane, no ground effect), zero sideslip and
no rotation rates: the full-span surface is `fullOf s` (mesh = the half mesh extended by its mirror image,
`symmetry = False`).  If the circulations `Γ` solve the half model's linear system then their symmetric extension
solves the full model's system, and every panel of the modelled half receives the same force in both models.
-/
set_option linter.unusedSectionVars false
set_option linter.unusedSimpArgs false
namespace OAS
namespace C04
open VLM Finset

/-- the full-span surface of a symmetric half surface -/
noncomputable def fullOf (s : Surf ℝ) : Surf ℝ :=
  { nx := s.nx, ny := 2 * s.ny - 1, sym := false, left := s.left, ground := false, mesh := extMesh s }

/-- spanwise fold of the full-span panel column `J` onto the modelled (left) half -/
def foldCol (ny J : ℕ) : ℕ := if J < ny - 1 then J else 2 * ny - 3 - J

/-- symmetric extension of the half model's circulations to the full-span numbering -/
def gammaExt (s : Surf ℝ) (gamma : ℕ → ℝ) : ℕ → ℝ := fun M =>
  gamma ((M / (2 * s.ny - 2)) * (s.ny - 1) + foldCol s.ny (M % (2 * s.ny - 2)))

/-- standing hypotheses -/
structure Half (s : Surf ℝ) : Prop where
  sym : s.sym = true
  left : s.left = true
  ground : s.ground = false
  ny : 2 ≤ s.ny
  root : RootOnPlane s

theorem gammaExt_at (s : Surf ℝ) (gamma : ℕ → ℝ) (i J : ℕ) (hJ : J < 2 * s.ny - 2) :
    gammaExt s gamma (i * (2 * s.ny - 2) + J) = gamma (i * (s.ny - 1) + foldCol s.ny J) := by
  obtain ⟨h1, h2⟩ := div_mod_of_lt i J (2 * s.ny - 2) hJ
  simp only [gammaExt, h1, h2]

theorem full_ny (s : Surf ℝ) (h : Half s) : (fullOf s).ny - 1 = 2 * s.ny - 2 := by
  have := h.ny; simp only [fullOf]; omega

theorem vortexMesh_full (s : Surf ℝ) (h : Half s) (a hh : ℝ) : vortexMesh (fullOf s) a hh = vortexMesh s a hh := by
  unfold vortexMesh
  have e : extMesh (fullOf s) = extMesh s := by
    funext i c; simp [extMesh, fullOf]
  simp only [e, h.ground]
  simp [fullOf]

theorem velMtx_full (s : Surf ℝ) (h : Half s) (alpha : ℝ) (vm : Mesh ℝ) (p : V3 ℝ) (i J : ℕ) :
    velMtx (fullOf s) alpha vm p i J = velRaw s (wakeDir alpha) vm p i J := by
  simp [velMtx, velRaw, fullOf, h.ground]

/-- the full model's induction as a double sum over the full lattice of the half surface -/
theorem indVel_full (s : Surf ℝ) (h : Half s) (f : Flow ℝ) (g : ℕ → ℝ) (p : V3 ℝ) :
    indVel [fullOf s] f g p = V3.sumTo (s.nx - 1) (fun i => V3.sumTo (2 * s.ny - 2) (fun J =>
      V3.smul (g (i * (2 * s.ny - 2) + J))
        (velRaw s (wakeDir f.alpha) (vortexMesh s (deg2rad f.alpha) f.h) p i J))) := by
  rw [indVel_single, full_ny s h]
  simp only [vortexMesh_full s h, velMtx_full s h]
  rfl

/-- **K3: the full model with symmetrically extended circulations induces, at every point, what the half model
induces** -/
theorem indVel_full_eq_half (s : Surf ℝ) (h : Half s) (f : Flow ℝ) (gamma : ℕ → ℝ) (p : V3 ℝ) :
    indVel [fullOf s] f (gammaExt s gamma) p = indVel [s] f gamma p := by
  rw [indVel_full s h, indVel_single]
  apply V3.sumTo_ext
  intro i _
  have e2 : 2 * s.ny - 2 = 2 * (s.ny - 1) := by omega
  rw [c04_half_induction_eq_full s h.sym h.left (by have := h.ny; omega) f.alpha _ p i (fun j => gamma (i * (s.ny - 1) + j)), ← e2]
  apply V3.sumTo_ext
  intro J hJ
  rw [gammaExt_at s gamma i J hJ]
  simp only [foldCol]
  split_ifs <;> rfl

theorem foldCol_reflect (ny J : ℕ) (hny : 2 ≤ ny) (hJ : J < 2 * ny - 2) :
    foldCol ny (2 * ny - 2 - 1 - J) = foldCol ny J := by
  simp only [foldCol]; split_ifs <;> omega

/-- **K4: with symmetric circulations the full lattice induces mirror-symmetric velocities** -/
theorem indVel_full_mirror (s : Surf ℝ) (h : Half s) (f : Flow ℝ) (gamma : ℕ → ℝ) (p : V3 ℝ) :
    indVel [fullOf s] f (gammaExt s gamma) (mirrorY p) = mirrorY (indVel [fullOf s] f (gammaExt s gamma) p) := by
  have hny := h.ny
  rw [indVel_full s h, indVel_full s h, ← mirrorY_isOrtho.sum]
  apply V3.sumTo_ext
  intro i _
  rw [← mirrorY_isOrtho.sum]
  set G : ℕ → V3 ℝ := fun J => mirrorY (V3.smul (gammaExt s gamma (i * (2 * s.ny - 2) + J))
      (velRaw s (wakeDir f.alpha) (vortexMesh s (deg2rad f.alpha) f.h) p i J)) with hG
  rw [← V3.sumTo_reflect (2 * s.ny - 2) G]
  apply V3.sumTo_ext
  intro J hJ
  have e : 2 * s.ny - 2 - 1 - J = 2 * s.ny - 3 - J := by omega
  simp only [hG]
  rw [c04_mirror_rows s h.sym h.ground hny h.root f.alpha (deg2rad f.alpha) f.h p i J (by omega), mirrorY_smul,
    gammaExt_at s gamma i J hJ, gammaExt_at s gamma i _ (by omega), foldCol_reflect s.ny J hny hJ, e]

/-! ### geometry of the full-span surface on the two halves -/

theorem ext_left (s : Surf ℝ) (h : Half s) (i c : ℕ) (hc : c < s.ny) : extMesh s i c = s.mesh i c := by
  simp [extMesh, h.sym, h.left, hc]

theorem ext_right (s : Surf ℝ) (h : Half s) (i c : ℕ) (hc : c ≤ 2 * s.ny - 2) :
    extMesh s i c = mirrorY (extMesh s i (2 * s.ny - 2 - c)) := by
  have := c04_ghost_is_mirror s h.sym (by have := h.ny; omega) h.root i c hc
  simpa [mirrorLattice] using this

theorem collPt_full_left (s : Surf ℝ) (h : Half s) (i J : ℕ) (hJ : J < s.ny - 1) :
    collPt (fullOf s) i J = collPt s i J := by
  simp only [collPt, fullOf, ext_left s h _ J (by omega), ext_left s h _ (J + 1) (by omega)]

theorem forcePt_full_left (s : Surf ℝ) (h : Half s) (i J : ℕ) (hJ : J < s.ny - 1) :
    forcePt (fullOf s) i J = forcePt s i J := by
  simp only [forcePt, fullOf, ext_left s h _ J (by omega), ext_left s h _ (J + 1) (by omega)]

theorem boundVec_full_left (s : Surf ℝ) (h : Half s) (i J : ℕ) (hJ : J < s.ny - 1) :
    boundVec (fullOf s) i J = boundVec s i J := by
  simp only [boundVec, fullOf, ext_left s h _ J (by omega), ext_left s h _ (J + 1) (by omega)]

theorem normal_full_left (s : Surf ℝ) (h : Half s) (i J : ℕ) (hJ : J < s.ny - 1) :
    normal (fullOf s) i J = normal s i J := by
  simp only [normal, VLMGeometry.normals, VLMGeometry.rawNormal, fullOf, ext_left s h _ J (by omega),
    ext_left s h _ (J + 1) (by omega)]

/-- collocation points of the mirror half are the mirror images of those of the modelled half -/
theorem collPt_full_right (s : Surf ℝ) (h : Half s) (i J : ℕ) (h1 : s.ny - 1 ≤ J) (h2 : J < 2 * s.ny - 2) :
    collPt (fullOf s) i J = mirrorY (collPt s i (2 * s.ny - 3 - J)) := by
  have hny := h.ny
  have e1 : 2 * s.ny - 2 - J = 2 * s.ny - 3 - J + 1 := by omega
  have e2 : 2 * s.ny - 2 - (J + 1) = 2 * s.ny - 3 - J := by omega
  simp only [collPt, fullOf]
  rw [ext_right s h i J (by omega), ext_right s h (i + 1) J (by omega), ext_right s h i (J + 1) (by omega),
    ext_right s h (i + 1) (J + 1) (by omega), e1, e2,
    ext_left s h i (2 * s.ny - 3 - J) (by omega), ext_left s h i (2 * s.ny - 3 - J + 1) (by omega),
    ext_left s h (i + 1) (2 * s.ny - 3 - J) (by omega), ext_left s h (i + 1) (2 * s.ny - 3 - J + 1) (by omega)]
  ext <;> simp <;> ring

/-- … and so are the panel normals (reflection and column reversal together keep the orientation) -/
theorem normal_full_right (s : Surf ℝ) (h : Half s) (i J : ℕ) (h1 : s.ny - 1 ≤ J) (h2 : J < 2 * s.ny - 2) :
    normal (fullOf s) i J = mirrorY (normal s i (2 * s.ny - 3 - J)) := by
  have hny := h.ny
  have e1 : 2 * s.ny - 2 - J = 2 * s.ny - 3 - J + 1 := by omega
  have e2 : 2 * s.ny - 2 - (J + 1) = 2 * s.ny - 3 - J := by omega
  simp only [normal, VLMGeometry.normals, VLMGeometry.rawNormal, fullOf]
  rw [ext_right s h i J (by omega), ext_right s h (i + 1) J (by omega), ext_right s h i (J + 1) (by omega),
    ext_right s h (i + 1) (J + 1) (by omega), e1, e2,
    ext_left s h i (2 * s.ny - 3 - J) (by omega), ext_left s h i (2 * s.ny - 3 - J + 1) (by omega),
    ext_left s h (i + 1) (2 * s.ny - 3 - J) (by omega), ext_left s h (i + 1) (2 * s.ny - 3 - J + 1) (by omega)]
  set j := 2 * s.ny - 3 - J
  have hc : V3.cross (mirrorY (s.mesh i j) - mirrorY (s.mesh (i + 1) (j + 1))) (mirrorY (s.mesh i (j + 1)) - mirrorY (s.mesh (i + 1) j))
      = mirrorY (V3.cross (s.mesh i (j + 1) - s.mesh (i + 1) j) (s.mesh i j - s.mesh (i + 1) (j + 1))) := by
    ext <;> simp <;> ring
  rw [hc, norm_mirrorY]
  ext <;> simp
  ring

/-! ### the two linear systems -/

/-- the linear system of a surface list: `Σₙ mtx[m,n] Γₙ = rhs[m]` for every panel `m` -/
def Solves (l : List (Surf ℝ)) (f : Flow ℝ) (gamma : ℕ → ℝ) : Prop :=
  ∀ m, m < totalPanels l → ∑ n ∈ range (totalPanels l), aic l f m n * gamma n = rhs l f m

theorem freestream_mirror (f : Flow ℝ) (hb : f.beta = 0) : mirrorY (freestreamDir f) = freestreamDir f := by
  ext <;> simp [freestreamDir, hb, deg2rad]

theorem locate_full (s : Surf ℝ) (h : Half s) (i J : ℕ) (hi : i < s.nx - 1) (hJ : J < 2 * s.ny - 2) :
    locate [fullOf s] (i * (2 * s.ny - 2) + J) = some (fullOf s, i, J) := by
  have := locate_single (fullOf s) i J (by simpa [fullOf] using hi) (by rw [full_ny s h]; exact hJ)
  rw [full_ny s h] at this
  exact this

/-- non-vacuity: a flat rectangular left half wing with its root on the plane satisfies `Half` -/
example : Half ⟨2, 3, true, true, false, fun i j => ⟨(i : ℝ), (j : ℝ) - 2, 0⟩⟩ := by
  refine ⟨rfl, rfl, rfl, by simp, ?_⟩
  intro i; simp

end C04
end OAS
