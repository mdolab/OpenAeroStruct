import OASProofs.Lemmas.Basic
import OASProofs.Lemmas.Real
import OASProofs.Lemmas.StressCore

/-!
# C15  Stress recovery and failure aggregation are consistent and conservative

Model: `OASModel/Stress.lean` (`failure_ks.py`, `failure_exact.py`, `vonmises_tube.py`,
`vonmises_wingbox.py`).  Statements over ℝ; `N = n + 1` stresses (any `n`).
-/
set_option linter.unusedSectionVars false
set_option linter.unusedSimpArgs false
namespace OAS
namespace C15
open Finset C01AD

/-! ### KS aggregation -/

theorem le_maxUpTo (f : ℕ → ℝ) : ∀ (n i : ℕ), i ≤ n → f i ≤ maxUpTo n f
  | 0, i, h => by
      have : i = 0 := Nat.le_zero.mp h
      subst this; simp [maxUpTo]
  | n + 1, i, h => by
      unfold maxUpTo
      rcases Nat.lt_or_ge i (n + 1) with h1 | h1
      · have ih := le_maxUpTo f n i (Nat.lt_succ_iff.mp h1)
        split_ifs with hlt
        · exact le_trans ih (le_of_lt hlt)
        · exact ih
      · have : i = n + 1 := le_antisymm h h1
        subst this
        split_ifs with hlt
        · exact le_refl _
        · exact not_lt.mp hlt

theorem maxUpTo_mem (f : ℕ → ℝ) : ∀ n : ℕ, ∃ i, i ≤ n ∧ maxUpTo n f = f i
  | 0 => ⟨0, le_refl 0, rfl⟩
  | n + 1 => by
      obtain ⟨i, hi, h⟩ := maxUpTo_mem f n
      unfold maxUpTo
      split_ifs with hlt
      · exact ⟨n + 1, le_refl _, rfl⟩
      · exact ⟨i, Nat.le_succ_of_le hi, h⟩

/-- the failure ratio `vm/σ − 1` used by both failure components -/
noncomputable def g (sigma : ℝ) (vm : ℕ → ℝ) (i : ℕ) : ℝ := vm i / sigma - 1

/-- **Every exponent evaluated by the KS function is ≤ 0** — this is what makes the evaluation
overflow-safe for arbitrarily large stresses. -/
theorem c15_ks_exponents_nonpositive (n : ℕ) (sigma rho : ℝ) (hr : 0 < rho) (vm : ℕ → ℝ) (i : ℕ) (hi : i ≤ n) :
    rho * (vm i / sigma - 1 - maxUpTo n (fun i => vm i / sigma - 1)) ≤ 0 := by
  have := le_maxUpTo (fun i => vm i / sigma - 1) n i hi
  have h : vm i / sigma - 1 - maxUpTo n (fun i => vm i / sigma - 1) ≤ 0 := by linarith
  exact mul_nonpos_of_nonneg_of_nonpos (le_of_lt hr) h

/-- **KS lower bound**: the aggregated failure is never below the largest element value. -/
theorem c15_ks_lower (n : ℕ) (sigma rho : ℝ) (hr : 0 < rho) (vm : ℕ → ℝ) :
    maxUpTo n (fun i => vm i / sigma - 1) ≤ failureKS n sigma rho vm := by
  unfold failureKS
  simp only [elem_log, elem_exp, sumTo_eq_sum]
  set M := maxUpTo n (fun i => vm i / sigma - 1) with hM
  obtain ⟨k, hk, hkM⟩ := maxUpTo_mem (fun i => vm i / sigma - 1) n
  have hsum : (1 : ℝ) ≤ ∑ i ∈ range (n + 1), Real.exp (rho * (vm i / sigma - 1 - M)) := by
    have hk' : k ∈ range (n + 1) := Finset.mem_range.mpr (Nat.lt_succ_of_le hk)
    have h1 : Real.exp (rho * (vm k / sigma - 1 - M)) = 1 := by
      have : vm k / sigma - 1 - M = 0 := by rw [hM, hkM]; ring
      rw [this, mul_zero, Real.exp_zero]
    calc (1 : ℝ) = Real.exp (rho * (vm k / sigma - 1 - M)) := h1.symm
      _ ≤ ∑ i ∈ range (n + 1), Real.exp (rho * (vm i / sigma - 1 - M)) :=
        Finset.single_le_sum (f := fun i => Real.exp (rho * (vm i / sigma - 1 - M)))
          (fun i _ => le_of_lt (Real.exp_pos _)) hk'
  have hlog : 0 ≤ Real.log (∑ i ∈ range (n + 1), Real.exp (rho * (vm i / sigma - 1 - M))) :=
    Real.log_nonneg hsum
  have : 0 ≤ 1 / rho * Real.log (∑ i ∈ range (n + 1), Real.exp (rho * (vm i / sigma - 1 - M))) :=
    mul_nonneg (le_of_lt (one_div_pos.mpr hr)) hlog
  linarith

/-- **KS upper bound**: it exceeds the largest element value by at most `ln(N)/ρ`, `N = n+1`. -/
theorem c15_ks_upper (n : ℕ) (sigma rho : ℝ) (hr : 0 < rho) (vm : ℕ → ℝ) :
    failureKS n sigma rho vm ≤ maxUpTo n (fun i => vm i / sigma - 1) + Real.log ((n : ℝ) + 1) / rho := by
  unfold failureKS
  simp only [elem_log, elem_exp, sumTo_eq_sum]
  set M := maxUpTo n (fun i => vm i / sigma - 1) with hM
  obtain ⟨k, hk, hkM⟩ := maxUpTo_mem (fun i => vm i / sigma - 1) n
  have hle : ∑ i ∈ range (n + 1), Real.exp (rho * (vm i / sigma - 1 - M)) ≤ (n : ℝ) + 1 := by
    have : ∀ i ∈ range (n + 1), Real.exp (rho * (vm i / sigma - 1 - M)) ≤ 1 := by
      intro i hi
      rw [Real.exp_le_one_iff]
      exact c15_ks_exponents_nonpositive n sigma rho hr vm i (Nat.lt_succ_iff.mp (Finset.mem_range.mp hi))
    calc ∑ i ∈ range (n + 1), Real.exp (rho * (vm i / sigma - 1 - M))
        ≤ ∑ _i ∈ range (n + 1), (1 : ℝ) := Finset.sum_le_sum this
      _ = (n : ℝ) + 1 := by simp
  have hpos : 0 < ∑ i ∈ range (n + 1), Real.exp (rho * (vm i / sigma - 1 - M)) :=
    Finset.sum_pos (fun i _ => Real.exp_pos _) (by simp)
  have hlog := Real.log_le_log hpos hle
  have : 1 / rho * Real.log (∑ i ∈ range (n + 1), Real.exp (rho * (vm i / sigma - 1 - M)))
      ≤ Real.log ((n : ℝ) + 1) / rho := by
    rw [one_div, div_eq_inv_mul]
    exact mul_le_mul_of_nonneg_left hlog (le_of_lt (inv_pos.mpr hr))
  linarith

/-- **The exact failure measure is stress over allowable minus one**, non-positive iff the stress
does not exceed the allowable. -/
theorem c15_exact (sigma vm : ℝ) (hs : 0 < sigma) :
    failureExact sigma vm = vm / sigma - 1 ∧ (failureExact sigma vm ≤ 0 ↔ vm ≤ sigma) := by
  refine ⟨rfl, ?_⟩
  unfold failureExact
  rw [sub_nonpos, div_le_one hs]

/-- the maximum of the exact failure values is what KS bounds: with `N = 1` KS is exact -/
theorem c15_ks_single (sigma rho : ℝ) (hr : 0 < rho) (vm : ℕ → ℝ) :
    failureKS 0 sigma rho vm = vm 0 / sigma - 1 := by
  unfold failureKS
  simp [maxUpTo, sumTo]

/-! ### von Mises stresses (tube) -/

/-- **von Mises stresses are non-negative.** -/
theorem c15_vm_tube_nonneg (E G : ℝ) (nodes : Pts ℝ) (radius : ℕ → ℝ) (disp : ℕ → Disp ℝ) (e : ℕ) :
    0 ≤ (vonMisesTube E G nodes radius disp e).1 ∧ 0 ≤ (vonMisesTube E G nodes radius disp e).2 := by
  unfold vonMisesTube
  exact ⟨Real.sqrt_nonneg _, Real.sqrt_nonneg _⟩

theorem c15_vm_wingbox_nonneg (E G tssf : ℝ) (ht : 0 < tssf) (nodes : Pts ℝ) (sec : ℕ → WingboxSec ℝ)
    (disp : ℕ → Disp ℝ) (e : ℕ) :
    let v := vonMisesWingbox E G tssf nodes sec disp e
    0 ≤ v.1 ∧ 0 ≤ v.2.1 ∧ 0 ≤ v.2.2.1 ∧ 0 ≤ v.2.2.2 := by
  simp only [vonMisesWingbox, elem_sqrt]
  exact ⟨div_nonneg (Real.sqrt_nonneg _) (le_of_lt ht), Real.sqrt_nonneg _, Real.sqrt_nonneg _,
    div_nonneg (Real.sqrt_nonneg _) (le_of_lt ht)⟩

/-- scaled displacement field -/
noncomputable def scaleDisp (k : ℝ) (d : ℕ → Disp ℝ) : ℕ → Disp ℝ :=
  fun j => ⟨V3.smul k (d j).u, V3.smul k (d j).r⟩

theorem mulVec_smul (T : M3 ℝ) (k : ℝ) (v : V3 ℝ) : T.mulVec (V3.smul k v) = V3.smul k (T.mulVec v) := by
  ext <;> simp only [M3.mulVec, V3.smul_x, V3.smul_y, V3.smul_z] <;> ring

theorem sqrt_sq_mul {k : ℝ} (hk : 0 ≤ k) (x : ℝ) : Real.sqrt (k ^ 2 * x) = k * Real.sqrt x := by
  rw [Real.sqrt_mul (sq_nonneg k), Real.sqrt_sq hk]

/-- the tube stresses are positively homogeneous in the local displacements: every radicand is quadratic in them -/
theorem tubeCore_smul (E G L rad k : ℝ) (hk : 0 ≤ k) (u0 r0 u1 r1 : V3 ℝ) :
    tubeCore E G L rad (V3.smul k u0) (V3.smul k r0) (V3.smul k u1) (V3.smul k r1)
      = (k * (tubeCore E G L rad u0 r0 u1 r1).1, k * (tubeCore E G L rad u0 r0 u1 r1).2) := by
  simp only [tubeCore, V3.smul_x, V3.smul_y, V3.smul_z, elem_sqrt, Prod.mk.injEq]
  rw [show (k * r1.y - k * r0.y) * (k * r1.y - k * r0.y) + (k * r1.z - k * r0.z) * (k * r1.z - k * r0.z)
      = k ^ 2 * ((r1.y - r0.y) * (r1.y - r0.y) + (r1.z - r0.z) * (r1.z - r0.z)) by ring, sqrt_sq_mul hk]
  constructor <;> exact (congrArg Real.sqrt (by push_cast; ring)).trans (sqrt_sq_mul hk _)

/-- **Tube von Mises stresses scale linearly with the displacement field**: for `k ≥ 0`,
`vm(k·disp) = k·vm(disp)` (for `k < 0` the two stress points of the element exchange their values,
because the bending contribution enters through a norm: see `c15_vm_tube_scaling_neg`). -/
theorem c15_vm_tube_scaling (E G k : ℝ) (hk : 0 ≤ k) (nodes : Pts ℝ) (radius : ℕ → ℝ) (disp : ℕ → Disp ℝ) (e : ℕ) :
    vonMisesTube E G nodes radius (scaleDisp k disp) e
      = (k * (vonMisesTube E G nodes radius disp e).1, k * (vonMisesTube E G nodes radius disp e).2) := by
  simp only [vonMisesTube_core, scaleDisp, mulVec_smul]
  exact tubeCore_smul _ _ _ _ _ hk _ _ _ _

/-- no relative axial displacement and no relative rotation of the two ends of the element: no stress -/
theorem tubeCore_eq_zero (E G L rad : ℝ) (u0 r0 u1 r1 : V3 ℝ) (hu : u1.x = u0.x) (hr : r1 = r0) :
    tubeCore E G L rad u0 r0 u1 r1 = (0, 0) := by
  simp [tubeCore, hu, hr]

/-- **Rigid translation gives zero tube stress** (more generally: equal displacement and rotation
at the two nodes of an element). -/
theorem c15_vm_tube_equal_nodes (E G : ℝ) (nodes : Pts ℝ) (radius : ℕ → ℝ) (disp : ℕ → Disp ℝ) (e : ℕ)
    (hu : (disp (e + 1)).u = (disp e).u) (hr : (disp (e + 1)).r = (disp e).r) :
    vonMisesTube E G nodes radius disp e = (0, 0) := by
  rw [vonMisesTube_core, hu, hr]
  exact tubeCore_eq_zero _ _ _ _ _ _ _ _ rfl rfl

/-- **Linearised rigid rotation gives zero tube stress**: `u_j = θ × (P_j − c)`, `r_j = θ`. -/
theorem c15_vm_tube_rigid_rotation (E G : ℝ) (nodes : Pts ℝ) (radius : ℕ → ℝ) (theta c t : V3 ℝ) (e : ℕ) :
    vonMisesTube E G nodes radius (fun j => ⟨t + V3.cross theta (nodes j - c), theta⟩) e = (0, 0) := by
  rw [vonMisesTube_core]
  refine tubeCore_eq_zero _ _ _ _ _ _ _ _ ?_ rfl
  -- the axial unit vector is parallel to `P₁ − P₀`, hence perpendicular to `θ × (P₁ − P₀)`
  simp only [M3.mulVec, elemFrame, V3.unit, V3.add_x, V3.add_y, V3.add_z, V3.cross_x, V3.cross_y, V3.cross_z,
    V3.sub_x, V3.sub_y, V3.sub_z]
  ring

end C15
end OAS
