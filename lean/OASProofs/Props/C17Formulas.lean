import OASProofs.Lemmas.Basic
import OASProofs.Lemmas.Dec
import OASProofs.Generated.Formulas

/-!
# Translated formulas = model

`OASProofs/Generated/Formulas.lean` is produced on every run by the expression translator of `harness/generate.py`
from the *current* source of the `compute()` methods (one definition per assignment statement).  The theorems below
show that the model definitions the property theorems are about are built from exactly those expressions – so a
change of any of these formulas in the code breaks a proof obligation here, independently of the sampled
correspondence.  Proved over ℝ by ring normalisation: a harmless re-association or re-ordering in the source keeps
them true.
-/
set_option linter.unusedSectionVars false
set_option linter.unusedSimpArgs false
namespace OAS
namespace Formulas
open Generated

/-! ### C17: coefficients, totals, Breguet, equilibrium -/

theorem coeffs_CL1 (L rho v S : ℝ) : F.coeffs_CL1 L rho v S = coeff L rho v S := by
  simp only [F.coeffs_CL1, coeff, dec_five_tenths]

theorem coeffs_CDi (D rho v S : ℝ) : F.coeffs_CDi D rho v S = coeff D rho v S := by
  simp only [F.coeffs_CDi, coeff, dec_five_tenths]

theorem totalLift_CL (a b : ℝ) : F.totalLift_CL a b = totalLift a b := rfl

theorem totalDrag_CD (a b c d : ℝ) : F.totalDrag_CD a b c d = totalDrag a b c d := rfl

theorem breguet (ns : ℕ) (sm : ℕ → ℝ) (CT CL CD a R M W0 : ℝ) :
    F.breguet_fuelburn W0 (sumTo ns sm) R CT a M CD CL = breguetFuelburn ns sm CT CL CD a R M W0 := by
  simp only [F.breguet_fuelburn, breguetFuelburn, Nat.cast_one]

theorem equilibrium_weight (ns : ℕ) (sm : ℕ → ℝ) (fb W0 lf CL St v rho : ℝ) :
    F.equilibrium_totWeight (sumTo ns sm) fb W0 (gravConstant * lf) = (equilibrium ns sm fb W0 lf CL St v rho).2 := by
  simp only [F.equilibrium_totWeight, equilibrium]

theorem equilibrium_LW (ns : ℕ) (sm : ℕ → ℝ) (fb W0 lf CL St v rho : ℝ) :
    F.equilibrium_LW rho v St CL (F.equilibrium_totWeight (sumTo ns sm) fb W0 (gravConstant * lf))
      = (equilibrium ns sm fb W0 lf CL St v rho).1 := by
  simp only [F.equilibrium_LW, F.equilibrium_totWeight, equilibrium, dec_five_tenths, Nat.cast_one]

/-- `TotalLiftDrag`: the four outputs are the code's four lines applied to the area-weighted sums -/
theorem totalLiftDrag_eq (ns : ℕ) (CL CD S : ℕ → ℝ) (rho v St : ℝ) :
    totalLiftDrag ns CL CD S rho v St
      = (F.tld_L (sumTo ns (fun s => CL s * S s)) rho v, F.tld_D (sumTo ns (fun s => CD s * S s)) rho v,
         F.tld_CL (sumTo ns (fun s => CL s * S s)) St, F.tld_CD (sumTo ns (fun s => CD s * S s)) St) := by
  simp only [totalLiftDrag, F.tld_L, F.tld_D, F.tld_CL, F.tld_CD, dec_five_tenths]

theorem deg2rad_eq (a : ℝ) : F.cv_alpha a = deg2rad a := by
  simp only [F.cv_alpha, deg2rad, dec_1800_10]

/-- `LiftCoeff2D`: the sectional lift coefficient is the code's `Cl` line applied to its `lift_dist`, `chord`, `alpha` lines -/
theorem liftCoeff2D_eq (nx : ℕ) (al rho v : ℝ) (Fc : ℕ → ℕ → V3 ℝ) (w c : ℕ → ℝ) (j : ℕ) :
    liftCoeff2D nx al rho v Fc w c j
      = F.lc2d_Cl (F.lc2d_lift_dist (V3.sumTo (nx - 1) (fun i => Fc i j)).x (Real.sin (F.lc2d_alpha al))
          (V3.sumTo (nx - 1) (fun i => Fc i j)).z (Real.cos (F.lc2d_alpha al)) (w j)) rho v (F.lc2d_chord (c (j + 1)) (c j)) := by
  rw [show F.lc2d_alpha al = deg2rad al from deg2rad_eq al]
  simp only [liftCoeff2D, F.lc2d_Cl, F.lc2d_lift_dist, F.lc2d_chord, dec_five_tenths, elem_sin, elem_cos]

end Formulas
end OAS
