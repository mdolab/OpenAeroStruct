import OASProofs.Generated.Atmos

/-!
# C17 (atmosphere): the tabulated 1976 standard atmosphere is internally consistent

`OASProofs/Generated/Atmos.lean` is regenerated from `openaerostruct/common/atmos_comp.py` on every
run; the theorems below are therefore re-checked against the table the code contains *now*.
All arithmetic is exact natural-number arithmetic on the decimal literals of the source
(`v = m / 10^e`), decided by the kernel over the whole table.

* ideal gas:       `|144·P − ρ·R·T| ≤ 2·10⁻⁴ · 144·P`,  `R = 1716.49 ft·lbf/(slug·°R)`
* speed of sound:  `|a² − 1.4·R·T| ≤ 2·10⁻⁴ · a²`
* ordering:        altitudes strictly increase, pressure and density strictly decrease

Between the table nodes the code uses `scipy`'s Akima interpolation: `OASModel/Akima.lean`, `C17Akima.lean`; that the altitude
column of this table meets the hypothesis of those theorems is `C17AtmosTable.lean`.
-/
namespace OAS.C17Atmos
open OAS.Generated

def absDiff (a b : Nat) : Nat := if a ≤ b then b - a else a - b

/-- `|144 P − ρ R T| · 10⁴ ≤ 2 · 144 P` after clearing the decimal exponents -/
def gasOK (r : AtmosRow) : Bool :=
  let lhs := 144 * r.pM * 10 ^ (r.rhoE + r.tE + 2)
  let rhs := r.rhoM * r.tM * 171649 * 10 ^ r.pE
  decide (absDiff lhs rhs * 10000 ≤ 2 * lhs)

/-- `|a² − 1.4 R T| · 10⁴ ≤ 2 a²` -/
def soundOK (r : AtmosRow) : Bool :=
  let lhs := r.aM * r.aM * 10 ^ (r.tE + 3)
  let rhs := 14 * 171649 * r.tM * 10 ^ (2 * r.aE)
  decide (absDiff lhs rhs * 10000 ≤ 2 * lhs)

/-- `x/10^e < y/10^f` on naturals -/
def decLt (xm xe ym ye : Nat) : Bool := decide (xm * 10 ^ ye < ym * 10 ^ xe)

def orderedPair (r s : AtmosRow) : Bool :=
  decLt r.altM r.altE s.altM s.altE && decLt s.pM s.pE r.pM r.pE && decLt s.rhoM s.rhoE r.rhoM r.rhoE

def chainOK : List AtmosRow → Bool
  | [] => true
  | [_] => true
  | r :: s :: rest => orderedPair r s && chainOK (s :: rest)

/-- **every row of the table satisfies the ideal-gas law within the table's resolution** -/
theorem c17_atmos_ideal_gas : atmosTable.all gasOK = true := by decide +kernel

/-- **every row satisfies `a² = γ R T` within the table's resolution** -/
theorem c17_atmos_speed_of_sound : atmosTable.all soundOK = true := by decide +kernel

/-- **altitude strictly increases, pressure and density strictly decrease along the table** -/
theorem c17_atmos_ordered : chainOK atmosTable = true := by decide +kernel

/-- the table is not trivial -/
theorem c17_atmos_size : 100 ≤ atmosTable.length := by decide +kernel

end OAS.C17Atmos
