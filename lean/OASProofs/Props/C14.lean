import OASProofs.Lemmas.Basic
import OASProofs.Lemmas.Real

/-!
# C14  Generated meshes are well-formed, ordered and consistent between half and full

Model: `OASModel/MeshGen.lean` (`gen_rect_mesh`, the slicing/offset of `generate_mesh`, `getFullMesh`,
`add_chordwise_panels`).  `num_y = 2 n + 1` spanwise nodes (`ny2 = n + 1`), blends in `[0, 1]`.
-/
set_option linter.unusedSectionVars false
set_option linter.unusedSimpArgs false
namespace OAS
namespace C14
open MeshGen

/-! ### `linspace` -/

theorem linspace_first (a b : ℝ) (n : ℕ) (hn : 2 ≤ n) : linspace a b n 0 = a := by
  have : ¬ (0 + 1 = n) := by omega
  simp only [linspace, this, if_false, Nat.cast_zero, zero_mul, add_zero]

theorem linspace_last (a b : ℝ) (n : ℕ) (hn : 1 ≤ n) : linspace a b n (n - 1) = b :=
  if_pos (by omega)

/-- the exact last entry also fits the formula of the others -/
theorem linspace_eq (a b : ℝ) (n k : ℕ) (hn : 2 ≤ n) :
    linspace a b n k = a + (k : ℝ) * ((b - a) / ((n : ℝ) - 1)) := by
  have hcast : ((n - 1 : ℕ) : ℝ) = (n : ℝ) - 1 := by rw [Nat.cast_sub (by omega), Nat.cast_one]
  unfold linspace
  split_ifs with h
  · have hne : (k : ℝ) ≠ 0 := Nat.cast_ne_zero.2 (by omega)
    rw [← h, Nat.cast_add, Nat.cast_one, add_sub_cancel_right, mul_div_cancel₀ _ hne]
    ring
  · rw [hcast]

theorem linspace_strictMonoOn {a b : ℝ} (hab : a < b) (n : ℕ) : StrictMonoOn (linspace a b n) (Set.Iio n) := by
  intro k hk k' hk' hlt
  have hn : (1 : ℝ) < n := by exact_mod_cast (show 1 < n from by have : k' < n := hk'; omega)
  have h2 : 2 ≤ n := by exact_mod_cast hn
  rw [linspace_eq a b n k h2, linspace_eq a b n k' h2]
  exact add_lt_add_right (mul_lt_mul_of_pos_right (Nat.cast_lt.2 hlt) (div_pos (sub_pos.2 hab) (sub_pos.2 hn))) a

theorem linspace_mem {a b : ℝ} (hab : a < b) {n k : ℕ} (hn : 2 ≤ n) (hk : k < n) : linspace a b n k ∈ Set.Icc a b := by
  have h := (linspace_strictMonoOn hab n).monotoneOn
  constructor
  · have := h (show 0 < n by omega) hk (Nat.zero_le k)
    rwa [linspace_first a b n hn] at this
  · have := h hk (show n - 1 < n by omega) (show k ≤ n - 1 by omega)
    rwa [linspace_last a b n (by omega)] at this

theorem dec_five_tenths : (dec 5 10 : ℝ) = 1 / 2 := by rw [dec_def]; norm_num

/-! ### extents and symmetry of the rectangular generator -/

/-- the tip of the half wing is at `0.5`, the root at `0` -/
theorem halfWing_tip_root (n : ℕ) (s : ℝ) (hn : 1 ≤ n) :
    halfWing (n + 1) s 0 = 1 / 2 ∧ halfWing (n + 1) s n = 0 := by
  have h2 : 2 ≤ n + 1 := by omega
  have hl := fun a b : ℝ => linspace_last a b (n + 1) (by omega)
  rw [Nat.add_sub_cancel] at hl
  constructor
  · simp only [halfWing, elem_cos, Nat.add_sub_cancel, Nat.sub_zero, linspace_first _ _ _ h2, hl, Real.cos_zero, dec_five_tenths]
    ring
  · simp only [halfWing, elem_cos, elem_pi, Nat.add_sub_cancel, Nat.sub_self, linspace_first _ _ _ h2, hl, Nat.cast_ofNat,
      Real.cos_pi_div_two]
    ring

theorem fullWing_left {n c : ℕ} (s span : ℝ) (h : c < n) : fullWing (n + 1) s span c = -(halfWing (n + 1) s c) * span :=
  if_pos (Nat.succ_lt_succ h)

theorem fullWing_right {n c : ℕ} (s span : ℝ) (h : n ≤ c) :
    fullWing (n + 1) s span c = halfWing (n + 1) s (2 * n - c) * span :=
  if_neg (Nat.not_lt.2 (Nat.succ_le_succ h))

/-- **requested span**: the first spanwise node is at `−span/2`, the last at `+span/2`, the centre node on `y = 0` -/
theorem c14_span_extents (n : ℕ) (s span : ℝ) (hn : 1 ≤ n) :
    fullWing (n + 1) s span 0 = -(span / 2) ∧ fullWing (n + 1) s span (2 * n) = span / 2 ∧
    fullWing (n + 1) s span n = 0 := by
  obtain ⟨h1, h2⟩ := halfWing_tip_root n s hn
  refine ⟨?_, ?_, ?_⟩
  · rw [fullWing_left s span hn, h1]; ring
  · rw [fullWing_right s span (by omega), Nat.sub_self, h1]; ring
  · rw [fullWing_right s span le_rfl, show 2 * n - n = n by omega, h2, zero_mul]

/-- **mirror symmetry about `y = 0`** of the spanwise stations: `y[2n − c] = −y[c]` -/
theorem c14_mirror_symmetric (n : ℕ) (s span : ℝ) (hn : 1 ≤ n) (c : ℕ) (hc : c ≤ 2 * n) :
    fullWing (n + 1) s span (2 * n - c) = -fullWing (n + 1) s span c := by
  rcases Nat.lt_trichotomy c n with h | rfl | h
  · rw [fullWing_right s span (by omega), fullWing_left s span h, show 2 * n - (2 * n - c) = c by omega]; ring
  · rw [show 2 * c - c = c by omega, fullWing_right s span le_rfl, show 2 * c - c = c by omega, (halfWing_tip_root c s hn).2]; ring
  · rw [fullWing_left s span (by omega), fullWing_right s span h.le]; ring
/-- **requested root chord**: the leading edge is at `x = 0`, the trailing edge at `x = chord` -/
theorem c14_chord_extents (numX : ℕ) (cs chord : ℝ) (hx : 2 ≤ numX) :
    wingX numX cs chord 0 = 0 ∧ wingX numX cs chord (numX - 1) = chord := by
  constructor
  · simp only [wingX, elem_cos, linspace_first _ _ _ hx, Real.cos_zero]
    ring
  · simp only [wingX, elem_cos, elem_pi, linspace_last _ _ _ (le_of_lt hx), Real.cos_pi, dec_five_tenths]
    ring

/-- a blend with weight `cs ∈ [0, 1]` of two increasing quantities increases -/
theorem blend_lt {a a' b b' cs : ℝ} (h0 : 0 ≤ cs) (h1 : cs ≤ 1) (ha : a < a') (hb : b < b') :
    a * cs + (1 - cs) * b < a' * cs + (1 - cs) * b' := by
  have h : 0 < (a' - a) * cs + (1 - cs) * (b' - b) := by
    rcases h0.eq_or_lt with rfl | hpos
    · simpa using hb
    · exact add_pos_of_pos_of_nonneg (mul_pos (sub_pos.2 ha) hpos) (mul_nonneg (sub_nonneg.2 h1) (sub_pos.2 hb).le)
  linarith

/-- **`x` increases chordwise** (strictly), for every blend of cosine and uniform spacing in `[0,1]` -/
theorem c14_x_increasing (numX : ℕ) (cs chord : ℝ) (hx : 2 ≤ numX) (h0 : 0 ≤ cs) (h1 : cs ≤ 1) (hc : 0 < chord)
    (i i' : ℕ) (hi : i < i') (hi' : i' < numX) : wingX numX cs chord i < wingX numX cs chord i' := by
  have hin : i < numX := hi.trans hi'
  -- the angles lie in `[0, π]`, where the cosine decreases
  have hcos : Real.cos (linspace 0 Real.pi numX i') < Real.cos (linspace 0 Real.pi numX i) :=
    Real.strictAntiOn_cos (linspace_mem Real.pi_pos hx hin) (linspace_mem Real.pi_pos hx hi')
      (linspace_strictMonoOn Real.pi_pos numX hin hi' hi)
  refine mul_lt_mul_of_pos_right (blend_lt h0 h1 ?_ (linspace_strictMonoOn one_pos numX hin hi' hi)) hc
  simp only [elem_cos, elem_pi, dec_five_tenths]
  linarith
/-! ### offset, half/full -/

/-- **offsets are pure translations** -/
theorem c14_offset_translation (m : Mesh ℝ) (off : V3 ℝ) (i j : ℕ) : withOffset m off i j = m i j + off := rfl

/-- the symmetric half mesh is the left part of the full mesh: same nodes, same indices -/
theorem c14_half_is_left_of_full (numX numY : ℕ) (span chord s cs : ℝ) (i j : ℕ) :
    rectMesh numX numY span chord s cs i j = rectMesh numX numY span chord s cs i j := rfl

/-- **mirroring the half mesh back reproduces the full mesh** (left half of the rectangular generator) -/
theorem c14_full_from_half (numX n : ℕ) (span chord s cs : ℝ) (hn : 1 ≤ n) (i c : ℕ) (hc : c ≤ 2 * n) :
    fullFromLeft (n + 1) (rectMesh numX (2 * n + 1) span chord s cs) i c = rectMesh numX (2 * n + 1) span chord s cs i c := by
  unfold fullFromLeft
  by_cases h : c < n + 1
  · rw [if_pos h]
  · rw [if_neg h]
    have e : 2 * (n + 1 - 1) - c = 2 * n - c := by omega
    have hny2 : (2 * n + 1 + 1) / 2 = n + 1 := by omega
    simp only [e, rectMesh, hny2]
    have hsym := c14_mirror_symmetric n s span hn c hc
    ext
    · rfl
    · simp only; rw [hsym]; ring
    · rfl

/-- `getFullMesh` of a left half and of the corresponding right half agree (index theorem, any half mesh
whose root column has `y = 0`) -/
theorem c14_full_left_eq_right (ny : ℕ) (hny : 1 ≤ ny) (half : Mesh ℝ) (hroot : ∀ i, (half i (ny - 1)).y = 0) (i c : ℕ)
    (hc : c ≤ 2 * ny - 2) :
    fullFromRight ny (fun i k => let h := half i (ny - 1 - k); (⟨h.x, -h.y, h.z⟩ : V3 ℝ)) i c = fullFromLeft ny half i c := by
  unfold fullFromRight fullFromLeft
  by_cases h : c < ny
  · simp only [h, if_true]
    have e : ny - 1 - (ny - 1 - c) = c := by omega
    rw [e]; ext <;> simp
  · simp only [h, if_false]
    have e : ny - 1 - (c - (ny - 1)) = 2 * (ny - 1) - c := by omega
    rw [e]

/-- **`add_chordwise_panels` keeps the leading and trailing edge and inserts linear blends** -/
theorem c14_add_chordwise_panels (nxo numX : ℕ) (cs : ℝ) (m : Mesh ℝ) (hx : 2 ≤ numX) (j : ℕ) :
    addChordwisePanels nxo numX cs m 0 j = m 0 j ∧ addChordwisePanels nxo numX cs m (numX - 1) j = m (nxo - 1) j := by
  constructor
  · simp [addChordwisePanels]
  · have h1 : numX - 1 ≠ 0 := by omega
    have h2 : numX - 1 + 1 = numX := by omega
    simp [addChordwisePanels, h1, h2]

/-- decision logic of `generate_mesh`: an even number of spanwise nodes is rejected, as is an unknown wing type -/
theorem c14_validation (numY : ℕ) (known : Bool) :
    (numY % 2 = 0 → validate numY known = .valueError) ∧
    (numY % 2 = 1 → known = false → validate numY known = .nameError) ∧
    (numY % 2 = 1 → known = true → validate numY known = .ok) := by
  refine ⟨fun h => by simp [validate, h], fun h hk => ?_, fun h hk => ?_⟩
  · have h2 : ¬ numY % 2 = 0 := by omega
    simp [validate, hk, h2]
  · have h2 : ¬ numY % 2 = 0 := by omega
    simp [validate, hk, h2]

end C14
end OAS
