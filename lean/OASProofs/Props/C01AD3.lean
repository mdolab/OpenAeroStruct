import OASProofs.Props.C01AD
import OASProofs.Lemmas.Norm
import OASProofs.Lemmas.StressCore

/-!
# C01 (continued)  Exactness of the derivative oracle: structural loads and stress recovery
-/
set_option linter.unusedSectionVars false
set_option linter.unusedSimpArgs false
set_option linter.unusedTactic false
set_option linter.unreachableTactic false
namespace OAS
namespace C01AD
open AD

variable {t : ℝ}

/-- tracking of a nodal load (force and moment) -/
def TracksL (a : Load (Dual ℝ)) (f : ℝ → Load ℝ) (t : ℝ) : Prop :=
  TracksV a.f (fun s => (f s).f) t ∧ TracksV a.m (fun s => (f s).m) t

/-- the element → node accumulation shared by the weight and fuel loads, w.r.t. the three element quantities it deposits -/
theorem distributedLoads_exact (ny : ℕ) {zf b3 b4 : ℕ → Dual ℝ} {fz f3 f4 : ℕ → ℝ → ℝ} (hz : ∀ e, Tracks (zf e) (fz e) t)
    (h3 : ∀ e, Tracks (b3 e) (f3 e) t) (h4 : ∀ e, Tracks (b4 e) (f4 e) t) (j : ℕ) :
    TracksL (distributedLoads ny zf b3 b4 j)
      (fun s => distributedLoads ny (fun e => fz e s) (fun e => f3 e s) (fun e => f4 e s) j) t := by
  refine ⟨?_, ?_⟩ <;> simp only [distributedLoads] <;> track

/-- `StructureWeightLoads`: distributed weight forces and the end moments of every element, accumulated on the nodes,
w.r.t. nodes, element masses and load factor -/
theorem structWeightLoads_exact (ny : ℕ) {n : Pts (Dual ℝ)} {fn : ℝ → Pts ℝ} {em : ℕ → Dual ℝ} {fem : ℕ → ℝ → ℝ}
    {lf : Dual ℝ} {flf : ℝ → ℝ} (hn : ∀ j, TracksV (n j) (fun s => fn s j) t) (hem : ∀ e, Tracks (em e) (fem e) t)
    (hlf : Tracks lf flf t)
    (hxy : ∀ e, 0 < (elemDelta (fn t) e).x * (elemDelta (fn t) e).x + (elemDelta (fn t) e).y * (elemDelta (fn t) e).y)
    (hL : ∀ e, 0 < V3.normSq (elemDelta (fn t) e)) (j : ℕ) :
    TracksL (structWeightLoads ny n em lf j) (fun s => structWeightLoads ny (fn s) (fun k => fem k s) (flf s) j) t := by
  have h2 : ((2 : ℕ) : ℝ) ≠ 0 := by norm_num
  have h12 : ((12 : ℕ) : ℝ) ≠ 0 := by norm_num
  have hLen := fun e => elemLength_exact hn e (hL e)
  have hLn := fun e => V3.norm_ne_zero (hL e)
  simp only [structWeightLoads]
  refine distributedLoads_exact ny (fun e => ?_) (fun e => ?_) (fun e => ?_) j <;> simp only [gravConstant, elemDelta] <;>
    track <;> first | exact hxy e | exact hLn e

theorem pointLoads_exact (ny np : ℕ) {n l : Pts (Dual ℝ)} {fn fl : ℝ → Pts ℝ} {F : ℕ → ℕ → V3 (Dual ℝ)}
    {fF : ℝ → ℕ → ℕ → V3 ℝ} (hn : ∀ j, TracksV (n j) (fun s => fn s j) t) (hl : ∀ p, TracksV (l p) (fun s => fl s p) t)
    (hF : ∀ p j, TracksV (F p j) (fun s => fF s p j) t) (j : ℕ) :
    TracksL (pointLoads ny np n l F j) (fun s => pointLoads ny np (fn s) (fl s) (fF s) j) t := by
  refine ⟨?_, ?_⟩ <;> simp only [pointLoads] <;> track

/-- the inverse-distance nodal weighting of point masses and engines (`1/(Δy¹⁰ + 1e-10)`, normalised) -/
theorem nodalWeighting_exact (ny : ℕ) {n : Pts (Dual ℝ)} {fn : ℝ → Pts ℝ} {loc : V3 (Dual ℝ)} {floc : ℝ → V3 ℝ}
    (hn : ∀ j, TracksV (n j) (fun s => fn s j) t) (hloc : TracksV loc floc t) (j : ℕ)
    (hd : ∀ k, pow10 ((floc t).y - (fn t k).y) + dec 1 10000000000 ≠ 0)
    (hs : sumTo ny (invDist10 (fn t) (floc t)) ≠ 0) :
    Tracks (nodalWeighting ny n loc j) (fun s => nodalWeighting ny (fn s) (floc s) j) t := by
  have hinv : ∀ k, Tracks (invDist10 n loc k) (fun s => invDist10 (fn s) (floc s) k) t := fun k => by
    simp only [invDist10, pow10]; track; exact hd k
  simp only [nodalWeighting]; track

theorem totalLoads_exact (relief fuel pm : Bool) {a b c d e : ℕ → Load (Dual ℝ)} {fa fb fc fd fe : ℝ → ℕ → Load ℝ}
    (ha : ∀ j, TracksL (a j) (fun s => fa s j) t) (hb : ∀ j, TracksL (b j) (fun s => fb s j) t)
    (hc : ∀ j, TracksL (c j) (fun s => fc s j) t) (hd : ∀ j, TracksL (d j) (fun s => fd s j) t)
    (he : ∀ j, TracksL (e j) (fun s => fe s j) t) (j : ℕ) :
    TracksL (totalLoads relief fuel pm a b c d e j) (fun s => totalLoads relief fuel pm (fa s) (fb s) (fc s) (fd s) (fe s) j) t := by
  have e1 : ∀ (x y : Load (Dual ℝ)), (x + y).f = x.f + y.f := fun _ _ => rfl
  have e2 : ∀ (x y : Load (Dual ℝ)), (x + y).m = x.m + y.m := fun _ _ => rfl
  have e3 : ∀ (x y : Load ℝ), (x + y).f = x.f + y.f := fun _ _ => rfl
  have e4 : ∀ (x y : Load ℝ), (x + y).m = x.m + y.m := fun _ _ => rfl
  have haf := fun j => (ha j).1; have ham := fun j => (ha j).2; have hbf := fun j => (hb j).1; have hbm := fun j => (hb j).2
  have hcf := fun j => (hc j).1; have hcm := fun j => (hc j).2; have hdf := fun j => (hd j).1; have hdm := fun j => (hd j).2
  have hef := fun j => (he j).1; have hem := fun j => (he j).2
  cases relief <;> cases fuel <;> cases pm <;> refine ⟨?_, ?_⟩ <;>
    simp only [totalLoads, Bool.false_eq_true, if_false, if_true, e1, e2, e3, e4] <;> track

end C01AD
end OAS

/-! ### stress recovery: element frame, von Mises stresses of the tube and of the wingbox -/
namespace OAS
namespace C01AD
open AD
variable {t : ℝ}

theorem unit_exact {a : V3 (Dual ℝ)} {f : ℝ → V3 ℝ} (ha : TracksV a f t) (h0 : 0 < V3.normSq (f t)) :
    TracksV (V3.unit a) (fun s => V3.unit (f s)) t := by
  have hne : V3.norm (f t) ≠ 0 := (Real.sqrt_pos.mpr h0).ne'
  unfold V3.unit; track

/-- side conditions under which the element triad of the stress recovery is differentiable: the element has positive
length and is not parallel to the global `x` axis -/
structure FrameOK (P0 P1 : V3 ℝ) : Prop where
  len : 0 < V3.normSq (P1 - P0)
  y : 0 < V3.normSq (V3.cross (V3.unit (P1 - P0)) ⟨1, 0, 0⟩)
  z : 0 < V3.normSq (V3.cross (V3.unit (P1 - P0)) (V3.unit (V3.cross (V3.unit (P1 - P0)) ⟨1, 0, 0⟩)))

theorem elemFrame_exact {P0 P1 : V3 (Dual ℝ)} {f0 f1 : ℝ → V3 ℝ} (h0 : TracksV P0 f0 t) (h1 : TracksV P1 f1 t)
    (ok : FrameOK (f0 t) (f1 t)) :
    TracksV (elemFrame P0 P1).r0 (fun s => (elemFrame (f0 s) (f1 s)).r0) t ∧
    TracksV (elemFrame P0 P1).r1 (fun s => (elemFrame (f0 s) (f1 s)).r1) t ∧
    TracksV (elemFrame P0 P1).r2 (fun s => (elemFrame (f0 s) (f1 s)).r2) t := by
  have hx := unit_exact (h1.sub h0) ok.len
  have hy := unit_exact (hx.cross (.mk .one .zero .zero)) ok.y
  exact ⟨hx, hy, unit_exact (hx.cross hy) ok.z⟩


theorem tubeCore_exact (E G : ℝ) {L rad : Dual ℝ} {fL fr : ℝ → ℝ} {u0 r0 u1 r1 : V3 (Dual ℝ)} {fu0 fr0 fu1 fr1 : ℝ → V3 ℝ}
    (hL : Tracks L fL t) (hr : Tracks rad fr t) (h1 : TracksV u0 fu0 t) (h2 : TracksV r0 fr0 t) (h3 : TracksV u1 fu1 t)
    (h4 : TracksV r1 fr1 t) (hL0 : fL t ≠ 0)
    (hb : 0 < ((fr1 t).y - (fr0 t).y) * ((fr1 t).y - (fr0 t).y) + ((fr1 t).z - (fr0 t).z) * ((fr1 t).z - (fr0 t).z))
    (hv0 : 0 < (tubeCore E G (fL t) (fr t) (fu0 t) (fr0 t) (fu1 t) (fr1 t)).1 * (tubeCore E G (fL t) (fr t) (fu0 t) (fr0 t) (fu1 t) (fr1 t)).1)
    (hv1 : 0 < (tubeCore E G (fL t) (fr t) (fu0 t) (fr0 t) (fu1 t) (fr1 t)).2 * (tubeCore E G (fL t) (fr t) (fu0 t) (fr0 t) (fu1 t) (fr1 t)).2) :
    Tracks (tubeCore (⟨E, 0⟩ : Dual ℝ) (⟨G, 0⟩ : Dual ℝ) L rad u0 r0 u1 r1).1
      (fun s => (tubeCore E G (fL s) (fr s) (fu0 s) (fr0 s) (fu1 s) (fr1 s)).1) t ∧
    Tracks (tubeCore (⟨E, 0⟩ : Dual ℝ) (⟨G, 0⟩ : Dual ℝ) L rad u0 r0 u1 r1).2
      (fun s => (tubeCore E G (fL s) (fr s) (fu0 s) (fr0 s) (fu1 s) (fr1 s)).2) t := by
  -- positivity of the arguments of the outer square roots follows from the positivity of the stresses
  have p0 : 0 < (tubeCore E G (fL t) (fr t) (fu0 t) (fr0 t) (fu1 t) (fr1 t)).1 := by
    by_contra hc
    have : (tubeCore E G (fL t) (fr t) (fu0 t) (fr0 t) (fu1 t) (fr1 t)).1 = 0 := by
      have h := Real.sqrt_nonneg ((E * ((fu1 t).x - (fu0 t).x) / fL t + E * fr t / fL t * Real.sqrt (((fr1 t).y - (fr0 t).y) * ((fr1 t).y - (fr0 t).y) + ((fr1 t).z - (fr0 t).z) * ((fr1 t).z - (fr0 t).z))) * (E * ((fu1 t).x - (fu0 t).x) / fL t + E * fr t / fL t * Real.sqrt (((fr1 t).y - (fr0 t).y) * ((fr1 t).y - (fr0 t).y) + ((fr1 t).z - (fr0 t).z) * ((fr1 t).z - (fr0 t).z))) + ((3 : ℕ) : ℝ) * (G * fr t * ((fr1 t).x - (fr0 t).x) / fL t * (G * fr t * ((fr1 t).x - (fr0 t).x) / fL t)))
      exact le_antisymm (not_lt.mp hc) h
    rw [this] at hv0; simp at hv0
  have p1 : 0 < (tubeCore E G (fL t) (fr t) (fu0 t) (fr0 t) (fu1 t) (fr1 t)).2 := by
    by_contra hc
    have : (tubeCore E G (fL t) (fr t) (fu0 t) (fr0 t) (fu1 t) (fr1 t)).2 = 0 := by
      have h := Real.sqrt_nonneg ((E * ((fu0 t).x - (fu1 t).x) / fL t + E * fr t / fL t * Real.sqrt (((fr1 t).y - (fr0 t).y) * ((fr1 t).y - (fr0 t).y) + ((fr1 t).z - (fr0 t).z) * ((fr1 t).z - (fr0 t).z))) * (E * ((fu0 t).x - (fu1 t).x) / fL t + E * fr t / fL t * Real.sqrt (((fr1 t).y - (fr0 t).y) * ((fr1 t).y - (fr0 t).y) + ((fr1 t).z - (fr0 t).z) * ((fr1 t).z - (fr0 t).z))) + ((3 : ℕ) : ℝ) * (G * fr t * ((fr1 t).x - (fr0 t).x) / fL t * (G * fr t * ((fr1 t).x - (fr0 t).x) / fL t)))
      exact le_antisymm (not_lt.mp hc) h
    rw [this] at hv1; simp at hv1
  have q0 := Real.sqrt_pos.mp p0
  have q1 := Real.sqrt_pos.mp p1
  simp only [tubeCore]
  refine ⟨?_, ?_⟩ <;> track

/-- **`VonMisesTube`**: both von Mises stresses of every element, w.r.t. nodes, radius and the displacement field
(the hand-derived reverse-mode chain of `vonmises_tube.py`) -/
theorem vonMisesTube_exact (E G : ℝ) {n : Pts (Dual ℝ)} {fn : ℝ → Pts ℝ} {rad : ℕ → Dual ℝ} {frad : ℕ → ℝ → ℝ}
    {d : ℕ → Disp (Dual ℝ)} {fd : ℝ → ℕ → Disp ℝ} (hn : ∀ j, TracksV (n j) (fun s => fn s j) t)
    (hrad : ∀ e, Tracks (rad e) (frad e) t) (hdu : ∀ j, TracksV (d j).u (fun s => (fd s j).u) t)
    (hdr : ∀ j, TracksV (d j).r (fun s => (fd s j).r) t) (e : ℕ) (ok : FrameOK (fn t e) (fn t (e + 1)))
    (hb : 0 < (((elemFrame (fn t e) (fn t (e + 1))).mulVec (fd t (e + 1)).r).y - ((elemFrame (fn t e) (fn t (e + 1))).mulVec (fd t e).r).y)
            * (((elemFrame (fn t e) (fn t (e + 1))).mulVec (fd t (e + 1)).r).y - ((elemFrame (fn t e) (fn t (e + 1))).mulVec (fd t e).r).y)
          + (((elemFrame (fn t e) (fn t (e + 1))).mulVec (fd t (e + 1)).r).z - ((elemFrame (fn t e) (fn t (e + 1))).mulVec (fd t e).r).z)
            * (((elemFrame (fn t e) (fn t (e + 1))).mulVec (fd t (e + 1)).r).z - ((elemFrame (fn t e) (fn t (e + 1))).mulVec (fd t e).r).z))
    (hv0 : 0 < (vonMisesTube E G (fn t) (fun k => frad k t) (fd t) e).1 * (vonMisesTube E G (fn t) (fun k => frad k t) (fd t) e).1)
    (hv1 : 0 < (vonMisesTube E G (fn t) (fun k => frad k t) (fd t) e).2 * (vonMisesTube E G (fn t) (fun k => frad k t) (fd t) e).2) :
    Tracks (vonMisesTube (⟨E, 0⟩ : Dual ℝ) (⟨G, 0⟩ : Dual ℝ) n rad d e).1
      (fun s => (vonMisesTube E G (fn s) (fun k => frad k s) (fd s) e).1) t ∧
    Tracks (vonMisesTube (⟨E, 0⟩ : Dual ℝ) (⟨G, 0⟩ : Dual ℝ) n rad d e).2
      (fun s => (vonMisesTube E G (fn s) (fun k => frad k s) (fd s) e).2) t := by
  obtain ⟨f0, f1, f2⟩ := elemFrame_exact (hn e) (hn (e + 1)) ok
  have hL := Tracks.norm ((hn (e + 1)).sub (hn e)) ok.len
  have hL0 : V3.norm (fn t (e + 1) - fn t e) ≠ 0 := (Real.sqrt_pos.mpr ok.len).ne'
  simp only [vonMisesTube_core] at hv0 hv1 ⊢
  exact tubeCore_exact E G hL (hrad e) (TracksV.mulVec f0 f1 f2 (hdu e)) (TracksV.mulVec f0 f1 f2 (hdr e))
    (TracksV.mulVec f0 f1 f2 (hdu (e + 1))) (TracksV.mulVec f0 f1 f2 (hdr (e + 1))) hL0 hb hv0 hv1


/-- tracking of the wingbox section data of one element -/
structure TracksSec (a : WingboxSec (Dual ℝ)) (f : ℝ → WingboxSec ℝ) (t : ℝ) : Prop where
  Qz : Tracks a.Qz (fun s => (f s).Qz) t
  J : Tracks a.J (fun s => (f s).J) t
  Aenc : Tracks a.Aenc (fun s => (f s).Aenc) t
  tspar : Tracks a.tspar (fun s => (f s).tspar) t
  htop : Tracks a.htop (fun s => (f s).htop) t
  hbottom : Tracks a.hbottom (fun s => (f s).hbottom) t
  hfront : Tracks a.hfront (fun s => (f s).hfront) t
  hrear : Tracks a.hrear (fun s => (f s).hrear) t

set_option maxHeartbeats 1000000 in
theorem wingboxCore_exact (E G tssf : ℝ) {L : Dual ℝ} {fL : ℝ → ℝ} {sc : WingboxSec (Dual ℝ)} {fs : ℝ → WingboxSec ℝ}
    {u0 r0 u1 r1 : V3 (Dual ℝ)} {fu0 fr0 fu1 fr1 : ℝ → V3 ℝ}
    (hL : Tracks L fL t) (hs : TracksSec sc fs t) (h1 : TracksV u0 fu0 t) (h2 : TracksV r0 fr0 t) (h3 : TracksV u1 fu1 t)
    (h4 : TracksV r1 fr1 t) (hL0 : fL t ≠ 0) (ht : (fs t).tspar ≠ 0) (hA : (fs t).Aenc ≠ 0) (hk : tssf ≠ 0)
    (p1 : 0 < (wingboxRad E G (fL t) (fs t) (fu0 t) (fr0 t) (fu1 t) (fr1 t)).1)
    (p2 : 0 < (wingboxRad E G (fL t) (fs t) (fu0 t) (fr0 t) (fu1 t) (fr1 t)).2.1)
    (p3 : 0 < (wingboxRad E G (fL t) (fs t) (fu0 t) (fr0 t) (fu1 t) (fr1 t)).2.2.1)
    (p4 : 0 < (wingboxRad E G (fL t) (fs t) (fu0 t) (fr0 t) (fu1 t) (fr1 t)).2.2.2) :
    Tracks (wingboxCore (⟨E, 0⟩ : Dual ℝ) (⟨G, 0⟩ : Dual ℝ) (⟨tssf, 0⟩ : Dual ℝ) L sc u0 r0 u1 r1).1
      (fun s => (wingboxCore E G tssf (fL s) (fs s) (fu0 s) (fr0 s) (fu1 s) (fr1 s)).1) t ∧
    Tracks (wingboxCore (⟨E, 0⟩ : Dual ℝ) (⟨G, 0⟩ : Dual ℝ) (⟨tssf, 0⟩ : Dual ℝ) L sc u0 r0 u1 r1).2.1
      (fun s => (wingboxCore E G tssf (fL s) (fs s) (fu0 s) (fr0 s) (fu1 s) (fr1 s)).2.1) t ∧
    Tracks (wingboxCore (⟨E, 0⟩ : Dual ℝ) (⟨G, 0⟩ : Dual ℝ) (⟨tssf, 0⟩ : Dual ℝ) L sc u0 r0 u1 r1).2.2.1
      (fun s => (wingboxCore E G tssf (fL s) (fs s) (fu0 s) (fr0 s) (fu1 s) (fr1 s)).2.2.1) t ∧
    Tracks (wingboxCore (⟨E, 0⟩ : Dual ℝ) (⟨G, 0⟩ : Dual ℝ) (⟨tssf, 0⟩ : Dual ℝ) L sc u0 r0 u1 r1).2.2.2
      (fun s => (wingboxCore E G tssf (fL s) (fs s) (fu0 s) (fr0 s) (fu1 s) (fr1 s)).2.2.2) t := by
  have s1 := hs.Qz; have s2 := hs.J; have s3 := hs.Aenc; have s4 := hs.tspar; have s5 := hs.htop; have s6 := hs.hbottom
  have s7 := hs.hfront; have s8 := hs.hrear
  have n2 : ((2 : ℕ) : ℝ) ≠ 0 := by norm_num
  have hLL := mul_ne_zero hL0 hL0
  have hLLL := mul_ne_zero hLL hL0
  have h2t := mul_ne_zero n2 ht
  simp only [wingboxCore, wingboxRad] at p1 p2 p3 p4 ⊢
  refine ⟨?_, ?_, ?_, ?_⟩ <;> track

/-- **`VonMisesWingbox`**: the four von Mises stresses of every element, w.r.t. nodes, section data and the
displacement field -/
theorem vonMisesWingbox_exact (E G tssf : ℝ) {n : Pts (Dual ℝ)} {fn : ℝ → Pts ℝ} {sc : ℕ → WingboxSec (Dual ℝ)}
    {fs : ℝ → ℕ → WingboxSec ℝ} {d : ℕ → Disp (Dual ℝ)} {fd : ℝ → ℕ → Disp ℝ}
    (hn : ∀ j, TracksV (n j) (fun s => fn s j) t) (hs : ∀ e, TracksSec (sc e) (fun s => fs s e) t)
    (hdu : ∀ j, TracksV (d j).u (fun s => (fd s j).u) t) (hdr : ∀ j, TracksV (d j).r (fun s => (fd s j).r) t) (e : ℕ)
    (ok : FrameOK (fn t e) (fn t (e + 1))) (ht : (fs t e).tspar ≠ 0) (hA : (fs t e).Aenc ≠ 0) (hk : tssf ≠ 0)
    (hpos : ∀ q, q = wingboxRad E G (V3.norm (fn t (e + 1) - fn t e)) (fs t e)
        ((elemFrame (fn t e) (fn t (e + 1))).mulVec (fd t e).u) ((elemFrame (fn t e) (fn t (e + 1))).mulVec (fd t e).r)
        ((elemFrame (fn t e) (fn t (e + 1))).mulVec (fd t (e + 1)).u) ((elemFrame (fn t e) (fn t (e + 1))).mulVec (fd t (e + 1)).r) →
      0 < q.1 ∧ 0 < q.2.1 ∧ 0 < q.2.2.1 ∧ 0 < q.2.2.2) :
    Tracks (vonMisesWingbox (⟨E, 0⟩ : Dual ℝ) (⟨G, 0⟩ : Dual ℝ) (⟨tssf, 0⟩ : Dual ℝ) n sc d e).1
      (fun s => (vonMisesWingbox E G tssf (fn s) (fs s) (fd s) e).1) t ∧
    Tracks (vonMisesWingbox (⟨E, 0⟩ : Dual ℝ) (⟨G, 0⟩ : Dual ℝ) (⟨tssf, 0⟩ : Dual ℝ) n sc d e).2.1
      (fun s => (vonMisesWingbox E G tssf (fn s) (fs s) (fd s) e).2.1) t ∧
    Tracks (vonMisesWingbox (⟨E, 0⟩ : Dual ℝ) (⟨G, 0⟩ : Dual ℝ) (⟨tssf, 0⟩ : Dual ℝ) n sc d e).2.2.1
      (fun s => (vonMisesWingbox E G tssf (fn s) (fs s) (fd s) e).2.2.1) t ∧
    Tracks (vonMisesWingbox (⟨E, 0⟩ : Dual ℝ) (⟨G, 0⟩ : Dual ℝ) (⟨tssf, 0⟩ : Dual ℝ) n sc d e).2.2.2
      (fun s => (vonMisesWingbox E G tssf (fn s) (fs s) (fd s) e).2.2.2) t := by
  obtain ⟨f0, f1, f2⟩ := elemFrame_exact (hn e) (hn (e + 1)) ok
  have hL := Tracks.norm ((hn (e + 1)).sub (hn e)) ok.len
  have hL0 : V3.norm (fn t (e + 1) - fn t e) ≠ 0 := (Real.sqrt_pos.mpr ok.len).ne'
  obtain ⟨p1, p2, p3, p4⟩ := hpos _ rfl
  simp only [vonMisesWingbox_core]
  exact wingboxCore_exact E G tssf hL (hs e) (TracksV.mulVec f0 f1 f2 (hdu e)) (TracksV.mulVec f0 f1 f2 (hdr e))
    (TracksV.mulVec f0 f1 f2 (hdu (e + 1))) (TracksV.mulVec f0 f1 f2 (hdr (e + 1))) hL0 ht hA hk p1 p2 p3 p4

end C01AD
end OAS
