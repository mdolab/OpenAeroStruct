import OASProofs.Lemmas.Basic
import OASProofs.Lemmas.Real
import OASProofs.Props.C13
import OASProofs.Props.C18
import Mathlib.Analysis.Calculus.Deriv.Mul
import Mathlib.Analysis.Calculus.Deriv.Add
import Mathlib.Analysis.Calculus.Deriv.Inv
import Mathlib.Analysis.Calculus.Deriv.Pow
import Mathlib.Analysis.SpecialFunctions.Sqrt
import Mathlib.Analysis.SpecialFunctions.ExpDeriv

/-!
# C01  Analytic component derivatives equal the true derivatives

For every modelled component the correspondence check of each run compares the Jacobian the real
component reports with the forward-mode derivative of the Lean model (all declared and undeclared
entries) and, independently, with finite differences of the real `compute`.  The theorems below prove,
for a set of components, that a closed-form partial *is* the derivative of the model function
(`HasDerivAt`), and that the two repaired defects were defects (and are repaired).
-/
set_option linter.unusedSectionVars false
set_option linter.unusedSimpArgs false
namespace OAS
namespace C01
open Geo

/-! ### Coeffs, Reynolds, totals -/

theorem dec_half : (dec 1 2 : ℝ) = 1 / 2 := by simp only [dec_def]; push_cast; norm_num

/-- `∂CL1/∂L = 1/(½ρv²S)` -/
theorem c01_coeff_X (X rho v S : ℝ) : HasDerivAt (fun t => coeff t rho v S) (1 / (dec 1 2 * rho * (v * v) * S)) X :=
  (hasDerivAt_id X).div_const _

/-- `∂CL1/∂S = −L/(½ρv²S²)` -/
theorem c01_coeff_S (X rho v S : ℝ) (h : dec 1 2 * rho * (v * v) * S ≠ 0) :
    HasDerivAt (fun s => coeff X rho v s) (-(X * (dec 1 2 * rho * (v * v))) / (dec 1 2 * rho * (v * v) * S) ^ 2) S := by
  have hd : HasDerivAt (fun s : ℝ => dec 1 2 * rho * (v * v) * s) (dec 1 2 * rho * (v * v)) S := by
    simpa using (hasDerivAt_id S).const_mul (dec 1 2 * rho * (v * v))
  have := (hasDerivAt_const S X).div hd h
  show HasDerivAt (fun s => X / (dec 1 2 * rho * (v * v) * s)) _ S
  exact this.congr_deriv (by ring)

/-- `∂CL1/∂v = −2L/(½ρv³S)` -/
theorem c01_coeff_v (X rho v S : ℝ) (h : dec 1 2 * rho * (v * v) * S ≠ 0) :
    HasDerivAt (fun w => coeff X rho w S) (-(X * (dec 1 2 * rho * (2 * v) * S)) / (dec 1 2 * rho * (v * v) * S) ^ 2) v := by
  have hv : HasDerivAt (fun w : ℝ => w * w) (2 * v) v := by
    have := (hasDerivAt_id v).mul (hasDerivAt_id v)
    show HasDerivAt (fun w : ℝ => id w * id w) (2 * v) v
    exact this.congr_deriv (by simp; ring)
  have hd : HasDerivAt (fun w : ℝ => dec 1 2 * rho * (w * w) * S) (dec 1 2 * rho * (2 * v) * S) v :=
    (hv.const_mul (dec 1 2 * rho)).mul_const S
  have := (hasDerivAt_const v X).div hd h
  show HasDerivAt (fun w => X / (dec 1 2 * rho * (w * w) * S)) _ v
  exact this.congr_deriv (by ring)

/-- `re = ρ v / μ`: the three partials -/
theorem c01_reynolds (rho v mu : ℝ) (hmu : mu ≠ 0) :
    HasDerivAt (fun r => reynolds r v mu) (v / mu) rho ∧ HasDerivAt (fun w => reynolds rho w mu) (rho / mu) v ∧
    HasDerivAt (fun m => reynolds rho v m) (-(rho * v) / mu ^ 2) mu := by
  refine ⟨?_, ?_, ?_⟩
  · exact (((hasDerivAt_id rho).mul_const v).div_const mu).congr_deriv (by rw [one_mul])
  · exact (((hasDerivAt_id v).const_mul rho).div_const mu).congr_deriv (by rw [mul_one])
  · exact ((hasDerivAt_const mu (rho * v)).div (hasDerivAt_id mu) hmu).congr_deriv (by simp)

/-- total lift / total drag are sums with unit partials -/
theorem c01_total_drag (CDi CDv CDw CD0 : ℝ) :
    HasDerivAt (fun x => totalDrag x CDv CDw CD0) 1 CDi ∧ HasDerivAt (fun x => totalDrag CDi x CDw CD0) 1 CDv ∧
    HasDerivAt (fun x => totalDrag CDi CDv x CD0) 1 CDw :=
  ⟨(((hasDerivAt_id CDi).add_const CDv).add_const CDw).add_const CD0,
    (((hasDerivAt_id CDv).const_add CDi).add_const CDw).add_const CD0,
    ((hasDerivAt_id CDw).const_add (CDi + CDv)).add_const CD0⟩

/-! ### Breguet -/

/-- `∂fuelburn/∂CD = (W0+Ws) · exp(x) · R·CT/(a·M·CL)` -/
theorem c01_breguet_CD (ns : ℕ) (sm : ℕ → ℝ) (CT CL CD a R M W0 : ℝ) :
    HasDerivAt (fun cd => breguetFuelburn ns sm CT CL cd a R M W0)
      ((W0 + sumTo ns sm) * (Real.exp (R * CT / a / M * CD / CL) * (R * CT / a / M / CL))) CD := by
  have hx : HasDerivAt (fun cd : ℝ => R * CT / a / M * cd / CL) (R * CT / a / M / CL) CD :=
    (((hasDerivAt_id CD).const_mul (R * CT / a / M)).div_const CL).congr_deriv (by rw [mul_one])
  exact ((hx.exp).sub_const 1).const_mul (W0 + sumTo ns sm)

/-! ### wave drag (away from onset) -/

/-- above the crest-critical Mach number `∂CDw/∂M = 80 (M − Mcrit)³` (×2 for a symmetric surface) -/
theorem c01_wave_drag_M_above (d0 M : ℝ) :
    HasDerivAt (fun m : ℝ => 20 * (m - d0) ^ 4) (80 * (M - d0) ^ 3) M :=
  ((((hasDerivAt_id M).sub_const d0).pow 4).const_mul 20).congr_deriv (by simp; ring)

/-- below it the wave drag is identically zero on a neighbourhood, so is its derivative -/
theorem c01_wave_drag_M_below (d0 M : ℝ) (h : M < d0) : HasDerivAt (fun m : ℝ => C18.lock (m - d0)) 0 M := by
  have hev : (fun m : ℝ => C18.lock (m - d0)) =ᶠ[nhds M] fun _ => (0 : ℝ) := by
    have : ∀ᶠ m in nhds M, m < d0 := Iio_mem_nhds h
    filter_upwards [this] with m hm
    simp [C18.lock, not_lt.mpr (by linarith : m - d0 ≤ 0)]
  exact (hasDerivAt_const M (0 : ℝ)).congr_of_eventuallyEq hev

/-! ### Taper (finding F1, repaired) -/

/-- the output of `Taper` is affine in the taper ratio with slope `taperPartial`: the partial reported by
the repaired `compute_partials` is the derivative, **for every taper ratio including 1** -/
theorem c01_taper (nx ny : ℕ) (sym : Bool) (pos t : ℝ) (mesh : Mesh ℝ) (i j : ℕ) :
    HasDerivAt (fun s => (taper nx ny sym pos mesh s i j).x) (taperPartial nx ny sym pos mesh i j).x t ∧
    HasDerivAt (fun s => (taper nx ny sym pos mesh s i j).y) (taperPartial nx ny sym pos mesh i j).y t ∧
    HasDerivAt (fun s => (taper nx ny sym pos mesh s i j).z) (taperPartial nx ny sym pos mesh i j).z t := by
  -- every coordinate is `taperDist(s) · c + d`, and `taperDist` is affine in `s`
  have key : ∀ c d : ℝ, HasDerivAt (fun s => taperDist ny sym (refAxis nx pos mesh) s 1 j * c + d)
      (taperDist ny sym (refAxis nx pos mesh) 1 0 j * c) t := by
    intro c d
    have e : (fun s => taperDist ny sym (refAxis nx pos mesh) s 1 j * c + d) = fun s =>
        (taperDist ny sym (refAxis nx pos mesh) 0 1 j + s * taperDist ny sym (refAxis nx pos mesh) 1 0 j) * c + d :=
      funext fun s => by rw [C13.taperDist_affine ny sym (refAxis nx pos mesh) s j]
    rw [e]
    exact ((((hasDerivAt_id t).mul_const _).const_add _).mul_const c |>.add_const d).congr_deriv (by rw [one_mul])
  exact ⟨key _ _, key _ _, key _ _⟩

/-- finding F1: the former special case returned 0 at `taper = 1`; wherever the section is offset from the
reference axis and is not at the root this is not the derivative -/
theorem c01_taper_counterexample (nx ny : ℕ) (sym : Bool) (pos : ℝ) (mesh : Mesh ℝ) (i j : ℕ)
    (h : (taperPartial nx ny sym pos mesh i j).x ≠ 0) :
    ¬ HasDerivAt (fun s => (taper nx ny sym pos mesh s i j).x) 0 1 := by
  intro h0
  exact h ((c01_taper nx ny sym pos 1 mesh i j).1.unique h0)

/-! ### laminar skin friction (finding F3, repaired) -/

/-- `d/dRe (1.328/√Re) = −0.664 Re^{−3/2}` -/
theorem c01_cfLam (Re : ℝ) (h : 0 < Re) :
    HasDerivAt (fun r => ViscousDrag.cfLam r) (-(dec 1328 1000) * (1 / (2 * Real.sqrt Re)) / (Real.sqrt Re) ^ 2) Re := by
  have hs := Real.hasDerivAt_sqrt (ne_of_gt h)
  have hne : Real.sqrt Re ≠ 0 := ne_of_gt (Real.sqrt_pos.mpr h)
  have := (hasDerivAt_const Re (dec 1328 1000 : ℝ)).div hs hne
  show HasDerivAt (fun r => (dec 1328 1000 : ℝ) / Real.sqrt r) _ Re
  exact this.congr_deriv (by simp)

/-- finding F3: the derivative of the laminar skin friction is strictly negative, so the value `0` that
`compute_partials` used to report for `k_lam ≥ 1` was not the derivative -/
theorem c01_cfLam_deriv_neg (Re : ℝ) (h : 0 < Re) :
    -(dec 1328 1000 : ℝ) * (1 / (2 * Real.sqrt Re)) / (Real.sqrt Re) ^ 2 < 0 := by
  have hs : 0 < Real.sqrt Re := Real.sqrt_pos.mpr h
  have hc : (0 : ℝ) < dec 1328 1000 := by simp only [dec_def]; positivity
  have hp : 0 < (dec 1328 1000 : ℝ) * (1 / (2 * Real.sqrt Re)) / (Real.sqrt Re) ^ 2 := by positivity
  have e : -(dec 1328 1000 : ℝ) * (1 / (2 * Real.sqrt Re)) / (Real.sqrt Re) ^ 2
      = -((dec 1328 1000 : ℝ) * (1 / (2 * Real.sqrt Re)) / (Real.sqrt Re) ^ 2) := by ring
  rw [e]; linarith

/-! ### linear components have constant Jacobians -/

/-- `ScaleX`/`Taper` are linear in the per-section factor: `d mesh[i,j] / d chord[j] = mesh[i,j] − ref[j]` -/
theorem c01_scaleX_chord (nx : ℕ) (pos : ℝ) (mesh : Mesh ℝ) (chord : ℕ → ℝ) (i j : ℕ) (c : ℝ) :
    HasDerivAt (fun t => (scaleX nx pos mesh (Function.update chord j t) i j).x) ((mesh i j - refAxis nx pos mesh j).x) c := by
  have : (fun t => (scaleX nx pos mesh (Function.update chord j t) i j).x)
      = fun t => t * (mesh i j - refAxis nx pos mesh j).x + (refAxis nx pos mesh j).x := by
    funext t; simp [scaleX, scaleAbout]
  rw [this]
  simpa using ((hasDerivAt_id c).mul_const ((mesh i j - refAxis nx pos mesh j).x)).add_const ((refAxis nx pos mesh j).x)

/-- … and the entries `(i, j) ← chord[j']`, `j' ≠ j` are zero: the declared pattern of `ScaleX` has no missing entries -/
theorem c01_scaleX_chord_offdiag (nx : ℕ) (pos : ℝ) (mesh : Mesh ℝ) (chord : ℕ → ℝ) (i j j' : ℕ) (h : j' ≠ j) (c : ℝ) :
    HasDerivAt (fun t => (scaleX nx pos mesh (Function.update chord j' t) i j).x) 0 c := by
  have : (fun t => (scaleX nx pos mesh (Function.update chord j' t) i j).x)
      = fun _ => (scaleX nx pos mesh chord i j).x := by
    funext t; simp [scaleX, scaleAbout, Function.update, h.symm]
  rw [this]; exact hasDerivAt_const c _

end C01
end OAS
