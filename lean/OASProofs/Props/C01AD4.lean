import OASProofs.Props.C01AD

/-!
# C01 (continued)  Exactness of the derivative oracle: geometry transformations
-/
set_option linter.unusedSectionVars false
set_option linter.unusedSimpArgs false
set_option linter.unusedTactic false
set_option linter.unreachableTactic false
namespace OAS
namespace C01AD
open AD

variable {t : ℝ}

/-- `ScaleX`: w.r.t. the chord distribution and the mesh -/
theorem scaleX_exact (nx : ℕ) (pos : ℝ) {m : Mesh (Dual ℝ)} {fm : ℝ → Mesh ℝ} {c : ℕ → Dual ℝ} {fc : ℕ → ℝ → ℝ}
    (hm : ∀ i j, TracksV (m i j) (fun s => fm s i j) t) (hc : ∀ j, Tracks (c j) (fc j) t) (i j : ℕ) :
    TracksV (Geo.scaleX nx (⟨pos, 0⟩ : Dual ℝ) m c i j) (fun s => Geo.scaleX nx pos (fm s) (fun k => fc k s) i j) t := by
  simp only [Geo.scaleX, Geo.scaleAbout, Geo.refAxis]; track

/-- `Sweep`: w.r.t. the sweep angle and the mesh (`cos ≠ 0`: |angle| < 90°) -/
theorem sweep_exact (ny : ℕ) (sym : Bool) {m : Mesh (Dual ℝ)} {fm : ℝ → Mesh ℝ} {a : Dual ℝ} {fa : ℝ → ℝ}
    (hm : ∀ i j, TracksV (m i j) (fun s => fm s i j) t) (ha : Tracks a fa t)
    (h0 : Real.cos (Real.pi / ((180 : ℕ) : ℝ) * fa t) ≠ 0) (i j : ℕ) :
    TracksV (Geo.sweep ny sym m a i j) (fun s => Geo.sweep ny sym (fm s) (fa s) i j) t := by
  have h180 : ((180 : ℕ) : ℝ) ≠ 0 := by norm_num
  cases sym <;> simp only [Geo.sweep, Geo.shearDist, Bool.false_eq_true, if_false, if_true] <;> track

/-- `Dihedral`: w.r.t. the dihedral angle and the mesh -/
theorem dihedral_exact (ny : ℕ) (sym : Bool) {m : Mesh (Dual ℝ)} {fm : ℝ → Mesh ℝ} {a : Dual ℝ} {fa : ℝ → ℝ}
    (hm : ∀ i j, TracksV (m i j) (fun s => fm s i j) t) (ha : Tracks a fa t)
    (h0 : Real.cos (Real.pi / ((180 : ℕ) : ℝ) * fa t) ≠ 0) (i j : ℕ) :
    TracksV (Geo.dihedral ny sym m a i j) (fun s => Geo.dihedral ny sym (fm s) (fa s) i j) t := by
  have h180 : ((180 : ℕ) : ℝ) ≠ 0 := by norm_num
  cases sym <;> simp only [Geo.dihedral, Geo.shearDist, Bool.false_eq_true, if_false, if_true] <;> track

theorem shear_exact {m : Mesh (Dual ℝ)} {fm : ℝ → Mesh ℝ} {sh : ℕ → Dual ℝ} {fs : ℕ → ℝ → ℝ}
    (hm : ∀ i j, TracksV (m i j) (fun s => fm s i j) t) (hs : ∀ j, Tracks (sh j) (fs j) t) (i j : ℕ) :
    TracksV (Geo.shearX m sh i j) (fun s => Geo.shearX (fm s) (fun k => fs k s) i j) t ∧
    TracksV (Geo.shearY m sh i j) (fun s => Geo.shearY (fm s) (fun k => fs k s) i j) t ∧
    TracksV (Geo.shearZ m sh i j) (fun s => Geo.shearZ (fm s) (fun k => fs k s) i j) t := by
  refine ⟨?_, ?_, ?_⟩ <;> simp only [Geo.shearX, Geo.shearY, Geo.shearZ] <;> track

/-- `Stretch`: w.r.t. the span and the mesh -/
theorem stretch_exact (nx ny : ℕ) (sym : Bool) (pos : ℝ) {m : Mesh (Dual ℝ)} {fm : ℝ → Mesh ℝ} {sp : Dual ℝ} {fsp : ℝ → ℝ}
    (hm : ∀ i j, TracksV (m i j) (fun s => fm s i j) t) (hsp : Tracks sp fsp t)
    (h0 : (Geo.refAxis nx pos (fm t) (ny - 1)).y - (Geo.refAxis nx pos (fm t) 0).y ≠ 0) (i j : ℕ) :
    TracksV (Geo.stretch nx ny sym (⟨pos, 0⟩ : Dual ℝ) m sp i j) (fun s => Geo.stretch nx ny sym pos (fm s) (fsp s) i j) t := by
  have h2 : ((2 : ℕ) : ℝ) ≠ 0 := by norm_num
  cases sym <;> simp only [Geo.stretch, Geo.refAxis, Bool.false_eq_true, if_false, if_true] at h0 ⊢ <;> track

/-- `Rotate` without the dihedral pre-rotation (`rotate_x = False`): w.r.t. the twist distribution and the mesh – the
component whose missing leading/trailing-edge coupling entries were finding F11 -/
theorem rotate_noX_exact (nx ny : ℕ) (sym : Bool) (pos : ℝ) {m : Mesh (Dual ℝ)} {fm : ℝ → Mesh ℝ} {tw : ℕ → Dual ℝ}
    {ftw : ℕ → ℝ → ℝ} (hm : ∀ i j, TracksV (m i j) (fun s => fm s i j) t) (htw : ∀ j, Tracks (tw j) (ftw j) t) (i j : ℕ) :
    TracksV (Geo.rotate nx ny sym false (⟨pos, 0⟩ : Dual ℝ) m tw i j)
      (fun s => Geo.rotate nx ny sym false pos (fm s) (fun k => ftw k s) i j) t := by
  have h180 : ((180 : ℕ) : ℝ) ≠ 0 := by norm_num
  simp only [Geo.rotate, Geo.rotMat, Geo.refAxis, deg2rad, Bool.false_eq_true, if_false] <;> track

/-- `Rotate` with the dihedral pre-rotation on a symmetric surface: also through `arctan` of the reference-axis slope -/
theorem rotate_X_sym_exact (nx ny : ℕ) (pos : ℝ) {m : Mesh (Dual ℝ)} {fm : ℝ → Mesh ℝ} {tw : ℕ → Dual ℝ}
    {ftw : ℕ → ℝ → ℝ} (hm : ∀ i j, TracksV (m i j) (fun s => fm s i j) t) (htw : ∀ j, Tracks (tw j) (ftw j) t) (i j : ℕ)
    (h0 : (Geo.refAxis nx pos (fm t) j).y - (Geo.refAxis nx pos (fm t) (j + 1)).y ≠ 0) :
    TracksV (Geo.rotate nx ny true true (⟨pos, 0⟩ : Dual ℝ) m tw i j)
      (fun s => Geo.rotate nx ny true true pos (fm s) (fun k => ftw k s) i j) t := by
  have h180 : ((180 : ℕ) : ℝ) ≠ 0 := by norm_num
  simp only [Geo.rotate, Geo.rotMat, Geo.thetaX, Geo.refAxis, deg2rad, if_true] at h0 ⊢ <;> track

/-- a constant vector as dual numbers -/
def constV (v : V3 ℝ) : V3 (Dual ℝ) := ⟨⟨v.x, 0⟩, ⟨v.y, 0⟩, ⟨v.z, 0⟩⟩

/-- **`Taper` w.r.t. the taper ratio**, at every ratio (including the default `1.0`, where the code returned a zero
Jacobian before fix F1), symmetric and full-span, any mesh: the interpolation branches are decided by the mesh alone -/
theorem taper_exact (nx ny : ℕ) (sym : Bool) (pos : ℝ) (mesh : Mesh ℝ) {tr : Dual ℝ} {ft : ℝ → ℝ} (h : Tracks tr ft t) (i j : ℕ)
    (hs : (Geo.refAxis nx pos mesh (ny - 1)).y - (Geo.refAxis nx pos mesh 0).y ≠ 0) :
    TracksV (Geo.taper nx ny sym (⟨pos, 0⟩ : Dual ℝ) (fun a b => constV (mesh a b)) tr i j)
      (fun s => Geo.taper nx ny sym pos mesh (ft s) i j) t := by
  have hc : ∀ a b, TracksV (constV (mesh a b)) (fun _ => mesh a b) t := fun a b => ⟨.const _, .const _, .const _⟩
  have h2 : ((2 : ℕ) : ℝ) ≠ 0 := by norm_num
  simp only [Geo.refAxis] at hs
  -- the interpolation branches compare constants: both instantiations take the same one (by unfolding, hence not under `track`)
  have hd : Tracks (Geo.taperDist ny sym (Geo.refAxis nx (⟨pos, 0⟩ : Dual ℝ) fun a b => constV (mesh a b)) tr 1 j)
      (fun s => Geo.taperDist ny sym (Geo.refAxis nx pos mesh) (ft s) 1 j) t := by
    cases sym <;> simp only [Geo.taperDist, Geo.interp2, Geo.interp3, Geo.refAxis, Bool.false_eq_true, if_false, if_true] <;>
      repeat' apply Tracks.ite
    all_goals track
    all_goals (intro hh; apply hs; push_cast at hh; linarith)
  simp only [Geo.taper, Geo.scaleAbout, Geo.refAxis]; track

end C01AD
end OAS
