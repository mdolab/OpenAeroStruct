import OASProofs.Props.C10

/-!
# C12  The coupled aerostructural state is a consistent, path-independent fixed point

The coupled group is modelled abstractly: `aero : Disp → Loads` is "deform the mesh, solve the flow,
transfer the forces", `struct : Loads → Disp` is "solve the beam".  Whether and how fast OpenMDAO's solvers
converge is runtime behaviour outside the model (checked on the real code by the oracle).
-/
set_option linter.unusedSectionVars false
namespace OAS
namespace C12
open FEM Finset

section fixedpoint
variable {D L : Type}

/-- one block Gauss–Seidel sweep: loads from the current displacements, then displacements from those loads -/
def bgs (aero : D → L) (struct : L → D) (x : L × D) : L × D := (aero x.2, struct (aero x.2))

/-- **A state is a fixed point of the block Gauss–Seidel sweep iff it is consistent**: the loads are those
produced by the flow about the mesh deformed by the displacements, and the displacements are those produced
by these loads. -/
theorem c12_bgs_fixed_point_iff_consistent (aero : D → L) (struct : L → D) (l : L) (d : D) :
    bgs aero struct (l, d) = (l, d) ↔ (l = aero d ∧ d = struct l) := by
  unfold bgs
  constructor
  · intro h
    have h1 : aero d = l := congrArg Prod.fst h
    have h2 : struct (aero d) = d := congrArg Prod.snd h
    exact ⟨h1.symm, by rw [← h1]; exact h2.symm⟩
  · rintro ⟨h1, h2⟩
    rw [← h1, ← h2]
end fixedpoint

section relax
variable {V : Type} [AddCommGroup V] [Module ℝ V]

/-- **Relaxation (Aitken or any factor `θ ≠ 0`) has the same fixed points as the plain sweep** -/
theorem c12_relaxation_same_fixed_points (G : V → V) (theta : ℝ) (h : theta ≠ 0) (x : V) :
    x + theta • (G x - x) = x ↔ G x = x := by
  constructor
  · intro hx
    have h0 : theta • (G x - x) = 0 := by simpa using hx
    rcases smul_eq_zero.mp h0 with h1 | h1
    · exact absurd h1 h
    · exact sub_eq_zero.mp h1
  · intro hx; simp [hx]

/-- **A Newton step with an invertible Jacobian is stationary iff the residual vanishes** -/
theorem c12_newton_fixed_point (Jinv : V →ₗ[ℝ] V) (hinj : Function.Injective Jinv) (R : V → V) (x : V) :
    x - Jinv (R x) = x ↔ R x = 0 := by
  constructor
  · intro h
    have : Jinv (R x) = 0 := by simpa using h
    exact hinj (by rw [this, map_zero])
  · intro h; simp [h]
end relax

/-- uniqueness of the consistent state implies path independence: whatever solver, initial guess or
previously analysed point, any two converged states coincide -/
theorem c12_path_independent {S : Type} (consistent : S → Prop) (huniq : ∀ a b, consistent a → consistent b → a = b)
    (s1 s2 : S) (h1 : consistent s1) (h2 : consistent s2) : s1 = s2 := huniq s1 s2 h1 h2

/-- flight points of a multipoint model are separate copies of the point analysis: the outputs of point `i`
are a function of the inputs of point `i` only -/
theorem c12_multipoint_independent {X Y : Type} (point : X → Y) (xs xs' : ℕ → X) (i : ℕ) (h : xs i = xs' i) :
    (fun j => point (xs j)) i = (fun j => point (xs' j)) i := by simp [h]

/-! ### stiffness scaling and the rigid limit -/

/-- the element matrix is linear in the moduli: `(kE, kG) ↦ k · K_e` -/
theorem localStiff_scale (k E G A Iy Iz J L : ℝ) (r c : ℕ) (hr : r < 12) (hc : c < 12) :
    localStiff (k * E) (k * G) A Iy Iz J L r c = k * localStiff E G A Iy Iz J L r c :=
  C10.localStiff_smul ..

/-- **Scaling the stiffness matrix by `k` divides the displacements by `k`** for the same loads, so for
bounded loads the displacements vanish as the structure is made stiffer (rigid limit) -/
theorem c12_stiffness_scaling (n : ℕ) (Km : ℕ → ℕ → ℝ) (u f : ℕ → ℝ) (k : ℝ) (hk : k ≠ 0) (r : ℕ)
    (h : FEM.residual n Km u f r = 0) :
    FEM.residual n (fun a b => k * Km a b) (fun c => u c / k) f r = 0 := by
  rw [C10.residual_eq_zero_iff] at *
  rw [← h]
  exact Finset.sum_congr rfl (fun c _ => by field_simp)

end C12
end OAS
