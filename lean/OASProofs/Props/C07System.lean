import OASProofs.Props.C07
import OASProofs.Lemmas.System

/-!
# C07 (continued)  The mirror-image configuration has the mirror-image solution

For any list of full-span (non-symmetric, no ground effect) surfaces, any angle of attack, sideslip and rotation
rates: reflect every mesh about the `x–z` plane and reverse its spanwise node order, reverse the sign of sideslip, roll
and yaw rate, reflect the reference point.  Then, with the panels of every surface renumbered spanwise
(`j ↦ ny − 2 − j`), the influence matrix and the right-hand side are the same, the circulations are the same, and every
panel force is the mirror image.
-/
set_option linter.unusedSectionVars false
set_option linter.unusedSimpArgs false
namespace OAS
namespace C07
open VLM Finset

/-- the mirror image of a surface: reflected, spanwise node order reversed -/
noncomputable def mirSurf (s : Surf ℝ) : Surf ℝ := { s with mesh := mirrorLattice (s.ny - 1) s.mesh }

/-- the mirror image of a flow condition -/
noncomputable def mirFlow (f : Flow ℝ) : Flow ℝ :=
  { f with beta := -f.beta, omega := ⟨-f.omega.x, f.omega.y, -f.omega.z⟩, cg := mirrorY f.cg }

@[simp] theorem mirSurf_nx (s : Surf ℝ) : (mirSurf s).nx = s.nx := rfl
@[simp] theorem mirSurf_ny (s : Surf ℝ) : (mirSurf s).ny = s.ny := rfl
@[simp] theorem mirSurf_sym (s : Surf ℝ) : (mirSurf s).sym = s.sym := rfl
@[simp] theorem mirSurf_ground (s : Surf ℝ) : (mirSurf s).ground = s.ground := rfl
@[simp] theorem mirSurf_npanels (s : Surf ℝ) : (mirSurf s).npanels = s.npanels := rfl

/-- spanwise renumbering of the panels of every surface of the list -/
def mirIdx : List (Surf ℝ) → ℕ → ℕ
  | [], m => m
  | s :: rest, m =>
    if m < s.npanels then (m / (s.ny - 1)) * (s.ny - 1) + (s.ny - 2 - m % (s.ny - 1))
    else s.npanels + mirIdx rest (m - s.npanels)

/-- the renumbering maps panel `(s, i, j)` to panel `(mirror s, i, ny − 2 − j)` -/
theorem locate_mirIdx (l : List (Surf ℝ)) (m : ℕ) :
    locate (l.map mirSurf) (mirIdx l m) = (locate l m).map (fun t => (mirSurf t.1, t.2.1, t.1.ny - 2 - t.2.2)) := by
  induction l generalizing m with
  | nil => rfl
  | cons s rest ih =>
    simp only [List.map_cons, locate, mirIdx, mirSurf_npanels, mirSurf_ny]
    by_cases h1 : m < s.npanels
    · have hb : 0 < s.ny - 1 := by
        by_contra hc
        have : s.ny - 1 = 0 := by omega
        simp [Surf.npanels, this] at h1
      have hmod := Nat.mod_lt m hb
      have hJ : s.ny - 2 - m % (s.ny - 1) < s.ny - 1 := by omega
      obtain ⟨e1, e2⟩ := div_mod_of_lt (m / (s.ny - 1)) (s.ny - 2 - m % (s.ny - 1)) (s.ny - 1) hJ
      have hlt : m / (s.ny - 1) * (s.ny - 1) + (s.ny - 2 - m % (s.ny - 1)) < s.npanels := by
        have hi : m / (s.ny - 1) < s.nx - 1 := by
          apply Nat.div_lt_of_lt_mul; rw [Nat.mul_comm]; exact h1
        unfold Surf.npanels
        calc m / (s.ny - 1) * (s.ny - 1) + (s.ny - 2 - m % (s.ny - 1))
            < m / (s.ny - 1) * (s.ny - 1) + (s.ny - 1) := by omega
          _ = (m / (s.ny - 1) + 1) * (s.ny - 1) := by ring
          _ ≤ (s.nx - 1) * (s.ny - 1) := Nat.mul_le_mul_right _ (by omega)
      simp only [h1, if_true, hlt, e1, e2, Option.map_some]
    · have h2 : ¬ (s.npanels + mirIdx rest (m - s.npanels) < s.npanels) := by omega
      simp only [h1, if_false, h2, Nat.add_sub_cancel_left, ih]

/-- the renumbering is an involution -/
theorem mirIdx_invol (l : List (Surf ℝ)) (m : ℕ) : mirIdx l (mirIdx l m) = m := by
  induction l generalizing m with
  | nil => rfl
  | cons s rest ih =>
    simp only [mirIdx]
    by_cases h1 : m < s.npanels
    · have hb : 0 < s.ny - 1 := by
        by_contra hc
        have : s.ny - 1 = 0 := by omega
        simp [Surf.npanels, this] at h1
      have hmod := Nat.mod_lt m hb
      have hJ : s.ny - 2 - m % (s.ny - 1) < s.ny - 1 := by omega
      obtain ⟨e1, e2⟩ := div_mod_of_lt (m / (s.ny - 1)) (s.ny - 2 - m % (s.ny - 1)) (s.ny - 1) hJ
      have hlt : m / (s.ny - 1) * (s.ny - 1) + (s.ny - 2 - m % (s.ny - 1)) < s.npanels := by
        have hi : m / (s.ny - 1) < s.nx - 1 := by
          apply Nat.div_lt_of_lt_mul; rw [Nat.mul_comm]; exact h1
        unfold Surf.npanels
        calc m / (s.ny - 1) * (s.ny - 1) + (s.ny - 2 - m % (s.ny - 1))
            < m / (s.ny - 1) * (s.ny - 1) + (s.ny - 1) := by omega
          _ = (m / (s.ny - 1) + 1) * (s.ny - 1) := by ring
          _ ≤ (s.nx - 1) * (s.ny - 1) := Nat.mul_le_mul_right _ (by omega)
      simp only [h1, if_true, hlt, e1, e2]
      have e3 : s.ny - 2 - (s.ny - 2 - m % (s.ny - 1)) = m % (s.ny - 1) := by omega
      rw [e3, Nat.mul_comm]; exact Nat.div_add_mod m _
    · have h2 : ¬ (s.npanels + mirIdx rest (m - s.npanels) < s.npanels) := by omega
      simp only [h1, if_false, h2, Nat.add_sub_cancel_left, ih]
      omega

/-! ### geometry of the mirrored surface -/

theorem collPt_mir (s : Surf ℝ) (i j : ℕ) (hj : j < s.ny - 1) :
    collPt (mirSurf s) i (s.ny - 2 - j) = mirrorY (collPt s i j) := by
  have := c07_coll_pt_mirror s (s.ny - 1) i (s.ny - 2 - j) (by omega)
  have e : s.ny - 1 - 1 - (s.ny - 2 - j) = j := by omega
  rw [e] at this; exact this

theorem forcePt_mir (s : Surf ℝ) (i j : ℕ) (hj : j < s.ny - 1) :
    forcePt (mirSurf s) i (s.ny - 2 - j) = mirrorY (forcePt s i j) := by
  have e1 : s.ny - 1 - (s.ny - 2 - j) = j + 1 := by omega
  have e2 : s.ny - 1 - (s.ny - 2 - j + 1) = j := by omega
  ext <;> simp [forcePt, mirSurf, mirrorLattice, e1, e2] <;> ring

theorem boundVec_mir (s : Surf ℝ) (i j : ℕ) (hj : j < s.ny - 1) :
    boundVec (mirSurf s) i (s.ny - 2 - j) = -mirrorY (boundVec s i j) := by
  have e1 : s.ny - 1 - (s.ny - 2 - j) = j + 1 := by omega
  have e2 : s.ny - 1 - (s.ny - 2 - j + 1) = j := by omega
  ext <;> simp [boundVec, mirSurf, mirrorLattice, e1, e2] <;> ring

theorem normal_mir (s : Surf ℝ) (i j : ℕ) (hj : j < s.ny - 1) :
    normal (mirSurf s) i (s.ny - 2 - j) = mirrorY (normal s i j) := by
  have e1 : s.ny - 1 - (s.ny - 2 - j) = j + 1 := by omega
  have e2 : s.ny - 1 - (s.ny - 2 - j + 1) = j := by omega
  simp only [normal, VLMGeometry.normals, VLMGeometry.rawNormal, mirSurf, mirrorLattice, e1, e2]
  have hc : V3.cross (mirrorY (s.mesh i j) - mirrorY (s.mesh (i + 1) (j + 1))) (mirrorY (s.mesh i (j + 1)) - mirrorY (s.mesh (i + 1) j))
      = mirrorY (V3.cross (s.mesh i (j + 1) - s.mesh (i + 1) j) (s.mesh i j - s.mesh (i + 1) (j + 1))) := by
    ext <;> simp <;> ring
  rw [hc, norm_mirrorY]
  ext <;> simp
  ring

theorem vortexMesh_mir (s : Surf ℝ) (hs : s.sym = false) (hg : s.ground = false) (a h : ℝ) :
    vortexMesh (mirSurf s) a h = mirrorLattice (s.ny - 1) (vortexMesh s a h) := by
  have e1 : extMesh (mirSurf s) = mirrorLattice (s.ny - 1) s.mesh := by
    funext i c; simp [extMesh, mirSurf, hs]
  have e2 : extMesh s = s.mesh := by funext i c; simp [extMesh, hs]
  simp only [vortexMesh, mirSurf_ground, hg, Bool.false_eq_true, if_false, mirSurf_nx, e1, e2]
  exact C04.shiftQuarter_mirror s.nx (s.ny - 1) s.mesh

theorem velMtx_mir (s : Surf ℝ) (hs : s.sym = false) (hg : s.ground = false) (al : ℝ) (vm : Mesh ℝ) (p : V3 ℝ) (i j : ℕ)
    (hj : j < s.ny - 1) :
    velMtx (mirSurf s) al (mirrorLattice (s.ny - 1) vm) (mirrorY p) i (s.ny - 2 - j) = mirrorY (velMtx s al vm p i j) := by
  simp only [velMtx, velRaw, mirSurf_sym, mirSurf_ground, mirSurf_nx, hs, hg, Bool.false_eq_true, if_false]
  have := c07_lattice_mirror s.nx (s.ny - 1) al vm p i (s.ny - 2 - j) (by omega)
  have e : s.ny - 1 - 1 - (s.ny - 2 - j) = j := by omega
  rw [e] at this; exact this

/-! ### the assembled systems -/

/-- hypotheses: full-span surfaces without ground effect -/
structure Plain (l : List (Surf ℝ)) : Prop where
  sym : ∀ s ∈ l, s.sym = false
  ground : ∀ s ∈ l, s.ground = false

/-- the chordwise neighbour is renumbered consistently -/
theorem mirIdx_row (l : List (Surf ℝ)) (m : ℕ) (s : Surf ℝ) (i j : ℕ) (hl : locate l m = some (s, i, j)) (hi : 1 ≤ i) :
    mirIdx l (m - (s.ny - 1)) = mirIdx l m - (s.ny - 1) := by
  induction l generalizing m with
  | nil => simp [locate] at hl
  | cons t rest ih =>
    simp only [locate] at hl
    by_cases h1 : m < t.npanels
    · simp only [h1, if_true, Option.some.injEq, Prod.mk.injEq] at hl
      obtain ⟨rfl, rfl, rfl⟩ := hl
      have hb : 0 < t.ny - 1 := by
        by_contra hc
        have : t.ny - 1 = 0 := by omega
        simp [Surf.npanels, this] at h1
      have hge : t.ny - 1 ≤ m := by
        by_contra hc
        have : m / (t.ny - 1) = 0 := Nat.div_eq_of_lt (by omega)
        omega
      have h2 : m - (t.ny - 1) < t.npanels := by omega
      simp only [mirIdx, h1, h2, if_true]
      have hsplit : m = (m - (t.ny - 1)) + (t.ny - 1) := by omega
      have e1 : (m - (t.ny - 1)) / (t.ny - 1) = m / (t.ny - 1) - 1 := by
        have := Nat.add_div_right (m - (t.ny - 1)) hb
        rw [← hsplit] at this; omega
      have e2 : (m - (t.ny - 1)) % (t.ny - 1) = m % (t.ny - 1) := by
        have := Nat.add_mod_right (m - (t.ny - 1)) (t.ny - 1)
        rw [← hsplit] at this; exact this.symm
      rw [e1, e2]
      obtain ⟨k, hk⟩ : ∃ k, m / (t.ny - 1) = k + 1 := ⟨m / (t.ny - 1) - 1, by omega⟩
      rw [hk]
      simp only [Nat.add_sub_cancel, Nat.succ_mul]
      omega
    · simp only [h1, if_false] at hl
      have hge := locate_row_pos rest _ s i j hl hi
      have h2 : ¬ (m - (s.ny - 1) < t.npanels) := by omega
      simp only [mirIdx, h1, h2, if_false]
      have := ih _ hl
      have e : m - (s.ny - 1) - t.npanels = m - t.npanels - (s.ny - 1) := by omega
      rw [e, this]
      have hrow := locate_row_pos (rest.map mirSurf) (mirIdx rest (m - t.npanels)) (mirSurf s) i (s.ny - 2 - j)
        (by rw [locate_mirIdx, hl]; rfl) hi
      simp only [mirSurf_ny] at hrow
      omega

/-- the mirrored list holds the mirror images of the same panels, renumbered spanwise -/
theorem renum_mir (l : List (Surf ℝ)) : Renum l (l.map mirSurf) mirSurf (fun s j => s.ny - 2 - j) (mirIdx l) (mirIdx l) :=
  ⟨mirIdx_invol l, mirIdx_invol l, locate_mirIdx l, fun _ _ => rfl, mirIdx_row l⟩

theorem influence_mir (l : List (Surf ℝ)) (H : Plain l) (f : Flow ℝ) (p : V3 ℝ) (n : ℕ) :
    influence (l.map mirSurf) (mirFlow f) (mirrorY p) (mirIdx l n) = mirrorY (influence l f p n) := by
  unfold influence
  rw [locate_mirIdx]
  cases hl : locate l n with
  | none => exact mirrorY_zero.symm
  | some t =>
    obtain ⟨s, i, j⟩ := t
    have hs := locate_mem l n s i j hl
    have hj := locate_col_lt l n s i j hl
    simp only [Option.map_some]
    rw [vortexMesh_mir s (H.sym s hs) (H.ground s hs)]
    exact velMtx_mir s (H.sym s hs) (H.ground s hs) f.alpha _ p i j hj

/-- **Mirror-image configurations give mirror-image results**: same matrix, same right-hand side (hence the same
circulations, in the mirrored numbering), mirror-image panel forces. -/
theorem c07_mirror_configuration (l : List (Surf ℝ)) (H : Plain l) (f : Flow ℝ) :
    (∀ m n, aic (l.map mirSurf) (mirFlow f) (mirIdx l m) (mirIdx l n) = aic l f m n) ∧
    (∀ m, rhs (l.map mirSurf) (mirFlow f) (mirIdx l m) = rhs l f m) ∧
    (∀ gamma : ℕ → ℝ, (∀ m, m < totalPanels l → ∑ n ∈ range (totalPanels l), aic l f m n * gamma n = rhs l f m) →
      ∀ m, m < totalPanels l →
        ∑ n ∈ range (totalPanels l), aic (l.map mirSurf) (mirFlow f) m n * gamma (mirIdx l n) = rhs (l.map mirSurf) (mirFlow f) m) ∧
    (∀ (gamma : ℕ → ℝ) m, panelForce (l.map mirSurf) (mirFlow f) (fun k => gamma (mirIdx l k)) (mirIdx l m)
      = mirrorY (panelForce l f gamma m)) := by
  have h := renum_mir l
  have hj := fun m s i j (hl : locate l m = some (s, i, j)) => locate_col_lt l m s i j hl
  have hcoll := fun m s i j hl => collPt_mir s i j (hj m s i j hl)
  have hnormal := fun m s i j hl => normal_mir s i j (hj m s i j hl)
  have haic := h.aic_eq (f := f) (f' := mirFlow f) hcoll hnormal dot_mirrorY (influence_mir l H f)
  have hrhs := h.rhs_eq (f := f) (f' := mirFlow f) hcoll hnormal dot_mirrorY (c07_onset_mirror f)
  refine ⟨haic, hrhs, fun gamma hs m hm => ?_, fun gamma m => ?_⟩
  · have := h.solves haic hrhs gamma hs m (by rwa [h.total])
    rwa [h.total] at this
  · rw [panelForce_eq_with, panelForce_eq_with]
    exact h.panelForceWith_eq mirrorY_isOrtho (by norm_num) rfl (fun m s i j hl => forcePt_mir s i j (hj m s i j hl))
      (fun m s i j hl => by rw [boundVec_mir s i j (hj m s i j hl), V3.neg_one_smul]) (influence_mir l H f)
      (h.onsetAt_eq hcoll mirrorY_zero (c07_onset_mirror f)) gamma m

end C07
end OAS
