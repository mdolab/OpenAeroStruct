import OASProofs.Lemmas.AD
import Mathlib.Tactic.FieldSimp
import Mathlib.Tactic.Ring
import Mathlib.Tactic.Linarith
import Mathlib.Topology.Order.LeftRight
import Mathlib.Analysis.Calculus.MeanValue

/-!
  **C17 / C16 / C01 — the atmosphere interpolation (`OASModel/Akima.lean`, `common/atmos_comp.py`).**

  For every table (any number of knots, any strictly increasing abscissae, any values) and every query point:
  * the interpolant reproduces the table at every knot (`c17_akima_interpolates`),
  * on `[x i, x (i+1)]` it is the cubic Hermite segment `i` (`eval_segment`), whose value and slope at both ends are the table
    values and the knot slopes of the two knots (`hermite_left/right`, `hermiteDeriv_left/right`): the pieces join with a continuous
    first derivative, whatever the knot slopes are,
  * inside a segment the derivative of the interpolant is `hermiteDeriv` (`c01_akima_hasDerivAt`) and the forward-mode dual number
    of the model carries exactly that derivative (`hermite_exact`) — it is what the correspondence check compares
    `AtmosComp.compute_partials` (scipy's derivative spline) with,
  * a knot slope is no larger than the four extended secants around the knot (`knotSlope_bound`); where these vanish (the isothermal
    layer of the table) it is zero and a segment between two such knots is constant (`hermite_flat`, `c17_isothermal`): temperature
    and speed of sound do not vary there,
  * the interpolant is continuous at every altitude strictly inside the table, knots included (`c17_akima_continuousAt`),
  * within a segment it changes by at most `125 ·` (largest secant slope) per unit altitude (`c17_akima_lipschitz_on_segment`, from
    `mExt_bound`, `knotSlope_bound`, `hermiteDeriv_bound` and the mean value theorem),
  * `v = speed_of_sound · Mach_number` (`c17_atmos_velocity`).
-/
namespace OAS.C17Akima
open OAS OAS.Akima OAS.AD Filter Topology

/-- derivative of the Hermite segment with respect to the query point -/
noncomputable def hermiteDeriv (x0 x1 y0 y1 t0 t1 q : ℝ) : ℝ :=
  let dx := x1 - x0
  let slope := (y1 - y0) / dx
  let t := (t0 + t1 - 2 * slope) / dx
  3 * (t / dx) * (q - x0) ^ 2 + 2 * ((slope - t0) / dx - t) * (q - x0) + t0

theorem hermite_left (x0 x1 y0 y1 t0 t1 : ℝ) : hermite x0 x1 y0 y1 t0 t1 x0 = y0 := by
  simp [hermite]

theorem hermite_right (x0 x1 y0 y1 t0 t1 : ℝ) (h : x1 ≠ x0) : hermite x0 x1 y0 y1 t0 t1 x1 = y1 := by
  have hd : x1 - x0 ≠ 0 := sub_ne_zero.mpr h
  simp only [hermite]
  field_simp
  push_cast
  ring

theorem hermiteDeriv_left (x0 x1 y0 y1 t0 t1 : ℝ) : hermiteDeriv x0 x1 y0 y1 t0 t1 x0 = t0 := by
  simp [hermiteDeriv]

theorem hermiteDeriv_right (x0 x1 y0 y1 t0 t1 : ℝ) (h : x1 ≠ x0) : hermiteDeriv x0 x1 y0 y1 t0 t1 x1 = t1 := by
  have hd : x1 - x0 ≠ 0 := sub_ne_zero.mpr h
  simp only [hermiteDeriv]
  field_simp
  ring

theorem hermite_hasDerivAt (x0 x1 y0 y1 t0 t1 q : ℝ) :
    HasDerivAt (hermite x0 x1 y0 y1 t0 t1) (hermiteDeriv x0 x1 y0 y1 t0 t1 q) q := by
  have hs : HasDerivAt (fun q : ℝ => q - x0) 1 q := (hasDerivAt_id q).sub_const x0
  have h := ((((hs.mul hs).mul hs).const_mul ((t0 + t1 - ((2 : ℕ) : ℝ) * ((y1 - y0) / (x1 - x0))) / (x1 - x0) / (x1 - x0))).add
    ((hs.mul hs).const_mul (((y1 - y0) / (x1 - x0) - t0) / (x1 - x0) - (t0 + t1 - ((2 : ℕ) : ℝ) * ((y1 - y0) / (x1 - x0))) / (x1 - x0)))).add
    (hs.const_mul t0) |>.add_const y0
  refine (h.congr_deriv ?_).congr_of_eventuallyEq (Filter.Eventually.of_forall fun z => ?_)
  · simp only [hermiteDeriv, Pi.mul_apply]; push_cast; ring
  · simp only [hermite, Pi.mul_apply, Pi.add_apply]; push_cast; ring

/-- forward-mode exactness: the dual-number evaluation of a segment carries the derivative of the real segment -/
theorem hermite_exact {t : ℝ} {X0 X1 Y0 Y1 T0 T1 Q : Dual ℝ} {x0 x1 y0 y1 t0 t1 : ℝ} {fq : ℝ → ℝ}
    (hx0 : Tracks X0 (fun _ => x0) t) (hx1 : Tracks X1 (fun _ => x1) t) (hy0 : Tracks Y0 (fun _ => y0) t)
    (hy1 : Tracks Y1 (fun _ => y1) t) (ht0 : Tracks T0 (fun _ => t0) t) (ht1 : Tracks T1 (fun _ => t1) t)
    (hq : Tracks Q fq t) (h : x1 - x0 ≠ 0) :
    Tracks (hermite X0 X1 Y0 Y1 T0 T1 Q) (fun z => hermite x0 x1 y0 y1 t0 t1 (fq z)) t := by
  have dx := hx1.sub hx0
  have slope := (hy1.sub hy0).div dx h
  have c := ((ht0.add ht1).sub ((Tracks.natCast 2).mul slope)).div dx h
  have s := hq.sub hx0
  exact (((((c.div dx h).mul s).mul s).mul s).add (((((slope.sub ht0).div dx h).sub c).mul s).mul s)).add (ht0.mul s) |>.add hy0

/-! ### the segment search -/

/-- the first `n` abscissae are strictly increasing (entries past the table are never read) -/
def Increasing (n : ℕ) (x : ℕ → ℝ) : Prop := ∀ a b, a < b → b < n → x a < x b

theorem Increasing.le {n : ℕ} {x : ℕ → ℝ} (hx : Increasing n x) {a b : ℕ} (hab : a ≤ b) (hb : b < n) : x a ≤ x b := by
  rcases hab.lt_or_eq with h | rfl
  · exact (hx a b h hb).le
  · exact le_rfl

theorem Increasing.of_succ {n : ℕ} {x : ℕ → ℝ} (h : ∀ k, k + 1 < n → x k < x (k + 1)) : Increasing n x := by
  intro a b hab hb
  induction b with
  | zero => omega
  | succ b ih =>
    rcases Nat.lt_succ_iff_lt_or_eq.mp hab with hlt | rfl
    · exact (ih hlt (by omega)).trans (h b hb)
    · exact h a hb

theorem locate_le (x : ℕ → ℝ) (q : ℝ) (k : ℕ) : locate x q k ≤ k := by
  induction k with
  | zero => simp [locate]
  | succ k ih => simp only [locate]; split <;> omega

/-- for a strictly increasing table the search over knots `0 … k` returns `i` when `x i ≤ q` and, unless `i = k` (the last
segment, which also serves every `q` beyond it), `q < x (i+1)` -/
theorem locate_eq (n : ℕ) (x : ℕ → ℝ) (hx : Increasing n x) (q : ℝ) (i k : ℕ) (hik : i ≤ k) (hk : k + 1 < n) (h0 : x i ≤ q)
    (h1 : i < k → q < x (i + 1)) : locate x q k = i := by
  induction k with
  | zero => rw [Nat.le_zero.mp hik]; rfl
  | succ k ih =>
    simp only [locate]
    rcases hik.lt_or_eq with hlt | rfl
    · rw [if_pos ((h1 hlt).trans_le (hx.le (Nat.succ_le_of_lt hlt) (by omega)))]
      exact ih (by omega) (by omega) fun h => h1 (by omega)
    · rw [if_neg (not_lt.mpr h0)]

theorem eval_segment_of_lt (n : ℕ) (x y : ℕ → ℝ) (hx : Increasing n x) (q : ℝ) (i : ℕ) (hi : i + 2 ≤ n) (h0 : x i ≤ q)
    (h1 : i + 2 < n → q < x (i + 1)) :
    eval n x y q =
      hermite (x i) (x (i + 1)) (y i) (y (i + 1)) (knotSlope n x y (maxTo (n - 1) (f12 n x y)) i)
        (knotSlope n x y (maxTo (n - 1) (f12 n x y)) (i + 1)) q := by
  simp only [eval]
  rw [locate_eq n x hx q i (n - 2) (by omega) (by omega) h0 fun h => h1 (by omega)]

/-- **C17** the interpolant reproduces every row of the table -/
theorem c17_akima_interpolates (n : ℕ) (x y : ℕ → ℝ) (hx : Increasing n x) (i : ℕ) (hn : 2 ≤ n) (hi : i < n) :
    eval n x y (x i) = y i := by
  rcases Nat.lt_or_ge (i + 1) n with h | h
  · rw [eval_segment_of_lt n x y hx (x i) i h le_rfl fun _ => hx _ _ (Nat.lt_succ_self i) h]
    exact hermite_left ..
  · obtain ⟨j, rfl⟩ : ∃ j, i = j + 1 := ⟨i - 1, by omega⟩
    have hlt : x j < x (j + 1) := hx _ _ (Nat.lt_succ_self j) hi
    rw [eval_segment_of_lt n x y hx _ j hi hlt.le fun h' => absurd h' (by omega)]
    exact hermite_right _ _ _ _ _ _ hlt.ne'

/-- on `[x i, x (i+1)]`, both knots included, the interpolant is the Hermite segment `i` -/
theorem eval_segment (n : ℕ) (x y : ℕ → ℝ) (hx : Increasing n x) (q : ℝ) (i : ℕ) (hi : i + 2 ≤ n) (h0 : x i ≤ q) (h1 : q ≤ x (i + 1)) :
    eval n x y q =
      hermite (x i) (x (i + 1)) (y i) (y (i + 1)) (knotSlope n x y (maxTo (n - 1) (f12 n x y)) i)
        (knotSlope n x y (maxTo (n - 1) (f12 n x y)) (i + 1)) q := by
  rcases h1.lt_or_eq with h1 | rfl
  · exact eval_segment_of_lt n x y hx q i hi h0 fun _ => h1
  · rw [c17_akima_interpolates n x y hx (i + 1) (by omega) hi,
      hermite_right _ _ _ _ _ _ (hx _ _ (Nat.lt_succ_self i) hi).ne']

/-- **C01** inside a segment the derivative of the interpolant is the derivative of its Hermite segment -/
theorem c01_akima_hasDerivAt (n : ℕ) (x y : ℕ → ℝ) (hx : Increasing n x) (q : ℝ) (i : ℕ) (hi : i + 2 ≤ n) (h0 : x i < q) (h1 : q < x (i + 1)) :
    HasDerivAt (eval n x y)
      (hermiteDeriv (x i) (x (i + 1)) (y i) (y (i + 1)) (knotSlope n x y (maxTo (n - 1) (f12 n x y)) i)
        (knotSlope n x y (maxTo (n - 1) (f12 n x y)) (i + 1)) q) q := by
  refine (hermite_hasDerivAt ..).congr_of_eventuallyEq ?_
  filter_upwards [Icc_mem_nhds h0 h1] with z hz
  exact eval_segment n x y hx z i hi hz.1 hz.2

/-- **C17** the flight speed is the interpolated speed of sound times the Mach number, and the other five outputs are the
interpolants of their own columns over the same altitude column -/
theorem c17_atmos_velocity (n : ℕ) (alt tT tP tRho tA tMu : ℕ → ℝ) (h M : ℝ) :
    (atmos n alt tT tP tRho tA tMu h M).2.2.2.2.2 = (atmos n alt tT tP tRho tA tMu h M).2.2.2.1 * M ∧
    (atmos n alt tT tP tRho tA tMu h M).1 = eval n alt tT h ∧
    (atmos n alt tT tP tRho tA tMu h M).2.2.2.1 = eval n alt tA h := by
  simp [atmos]

/-! ### the knot slopes stay within the secants -/

/-- the two linear extrapolations `2a − b` and `2(2a − b) − a = 3a − 2b` of scipy's array `m` at either end of the table (the first
is within `3 S`; one bound serves both) -/
theorem abs_extrapolate_le {a b S : ℝ} (ha : |a| ≤ S) (hb : |b| ≤ S) : |2 * a - b| ≤ 5 * S ∧ |2 * (2 * a - b) - a| ≤ 5 * S := by
  obtain ⟨la, ua⟩ := abs_le.mp ha
  obtain ⟨lb, ub⟩ := abs_le.mp hb
  exact ⟨abs_le.mpr ⟨by linarith only [la, ua, ub], by linarith only [la, ua, lb]⟩,
    abs_le.mpr ⟨by linarith only [la, ub], by linarith only [ua, lb]⟩⟩

/-- the extended secants (two extrapolated on each side) are bounded by five times the largest secant of the table -/
theorem mExt_bound (n : ℕ) (x y : ℕ → ℝ) (S : ℝ) (hn : 3 ≤ n) (hs : ∀ j, j + 1 < n → |secant x y j| ≤ S) (k : ℕ) :
    |mExt n x y k| ≤ 5 * S := by
  have front := abs_extrapolate_le (hs 0 (by omega)) (hs 1 (by omega))
  have back := abs_extrapolate_le (hs (n - 2) (by omega)) (hs (n - 3) (by omega))
  simp only [mExt, Nat.cast_ofNat]
  split_ifs
  · exact front.2
  · exact front.1
  · exact (hs (k - 2) (by omega)).trans (le_mul_of_one_le_left ((abs_nonneg _).trans (hs 0 (by omega))) (by norm_num))
  · exact back.1
  · exact back.2

/-- a point between `a` and `b` is no larger than the larger of them -/
theorem abs_lerp_le {a b w S : ℝ} (hw0 : 0 ≤ w) (hw1 : w ≤ 1) (ha : |a| ≤ S) (hb : |b| ≤ S) : |a + w * (b - a)| ≤ S :=
  abs_le.mpr ((convex_Icc (-S) S).add_smul_sub_mem (abs_le.mp ha) (abs_le.mp hb) ⟨hw0, hw1⟩)

/-- **knot slopes stay between the neighbouring (extended) secants**: `|t i| ≤` any bound of the four extended secants around the knot
(a weighted mean of the inner two, or the mean of the outer two) -/
theorem knotSlope_bound (n : ℕ) (x y : ℕ → ℝ) (mmax S : ℝ) (i : ℕ)
    (h0 : |mExt n x y i| ≤ S) (h1 : |mExt n x y (i + 1)| ≤ S) (h2 : |mExt n x y (i + 2)| ≤ S) (h3 : |mExt n x y (i + 3)| ≤ S) :
    |knotSlope n x y mmax i| ≤ S := by
  rw [knotSlope]
  split_ifs
  · have hf : 0 ≤ f12 n x y i := add_nonneg (abs_nonneg _) (abs_nonneg _)
    have hle : |mExt n x y (i + 1) - mExt n x y i| ≤ f12 n x y i := le_add_of_nonneg_left (abs_nonneg _)
    exact abs_lerp_le (div_nonneg (abs_nonneg _) hf) (div_le_one_of_le₀ hle hf) h1 h2
  · have := abs_lerp_le (w := 1 / 2) (by norm_num) (by norm_num) h0 h3
    rwa [show mExt n x y i + 1 / 2 * (mExt n x y (i + 3) - mExt n x y i) = dec 1 2 * (mExt n x y (i + 3) + mExt n x y i) by
      rw [dec_def]; push_cast; ring] at this

/-! ### the isothermal layer -/

/-- a segment between two knots of equal value and zero slope is constant -/
theorem hermite_flat (x0 x1 y q : ℝ) : hermite x0 x1 y y 0 0 q = y := by
  simp [hermite]

theorem mExt_interior (n : ℕ) (x y : ℕ → ℝ) (k : ℕ) (h2 : 2 ≤ k) (hk : k ≤ n) : mExt n x y k = secant x y (k - 2) := by
  have a : k ≠ 0 := by omega
  have b : k ≠ 1 := by omega
  simp [mExt, a, b, hk]

/-- **C17** in the interior of the table `mExt` is the secant slope, so a run of equal table values gives zero secants, hence
(`knotSlope_bound` with bound `0`) zero knot slopes and a constant interpolant there (temperature and speed of sound in the
isothermal layer) -/
theorem c17_isothermal (n : ℕ) (x y : ℕ → ℝ) (hx : Increasing n x) (i : ℕ) (q : ℝ) (hi2 : 2 ≤ i) (hin : i + 4 ≤ n)
    (hy : ∀ j, i - 2 ≤ j → j ≤ i + 3 → y j = y i) (h0 : x i ≤ q) (h1 : q < x (i + 1)) :
    eval n x y q = y i := by
  have m0 : ∀ k, i ≤ k → k ≤ i + 4 → |mExt n x y k| ≤ 0 := by
    intro k hk1 hk2
    rw [mExt_interior n x y k (by omega) (by omega), secant, hy (k - 2) (by omega) (by omega),
      hy (k - 2 + 1) (by omega) (by omega), sub_self, zero_div, abs_zero]
  have t0 : ∀ j, i ≤ j → j ≤ i + 1 → knotSlope n x y (maxTo (n - 1) (f12 n x y)) j = 0 := fun j h h' =>
    abs_nonpos_iff.mp (knotSlope_bound n x y _ 0 j (m0 _ (by omega) (by omega)) (m0 _ (by omega) (by omega))
      (m0 _ (by omega) (by omega)) (m0 _ (by omega) (by omega)))
  rw [eval_segment n x y hx q i (by omega) h0 h1.le, t0 i le_rfl (by omega), t0 (i + 1) (by omega) le_rfl,
    hy (i + 1) (by omega) (by omega)]
  exact hermite_flat ..

/-! ### continuity in altitude -/

/-- every point of `[x 0, x (n−1))` lies in a segment -/
theorem exists_segment (x : ℕ → ℝ) (q : ℝ) (m : ℕ) (h0 : x 0 ≤ q) (h1 : q < x (m + 1)) :
    ∃ i, i ≤ m ∧ x i ≤ q ∧ q < x (i + 1) := by
  induction m with
  | zero => exact ⟨0, le_rfl, h0, h1⟩
  | succ m ih =>
    rcases lt_or_ge q (x (m + 1)) with h | h
    · obtain ⟨i, hi, a, b⟩ := ih h
      exact ⟨i, by omega, a, b⟩
    · exact ⟨m + 1, le_rfl, h, h1⟩

theorem hermite_continuous (x0 x1 y0 y1 t0 t1 : ℝ) : Continuous (hermite x0 x1 y0 y1 t0 t1) :=
  continuous_iff_continuousAt.mpr fun q => (hermite_hasDerivAt x0 x1 y0 y1 t0 t1 q).continuousAt

theorem eval_continuousOn_segment (n : ℕ) (x y : ℕ → ℝ) (hx : Increasing n x) (i : ℕ) (hi : i + 2 ≤ n) :
    ContinuousOn (eval n x y) (Set.Icc (x i) (x (i + 1))) :=
  (hermite_continuous ..).continuousOn.congr fun z hz => eval_segment n x y hx z i hi hz.1 hz.2

/-- **C17** the interpolated atmosphere is continuous in altitude: at every point strictly inside the table (knots included) -/
theorem c17_akima_continuousAt (n : ℕ) (x y : ℕ → ℝ) (hx : Increasing n x) (q : ℝ) (hn : 2 ≤ n) (h0 : x 0 < q) (h1 : q < x (n - 1)) :
    ContinuousAt (eval n x y) q := by
  obtain ⟨i, hi, a, b⟩ := exists_segment x q (n - 2) h0.le (by rwa [show n - 2 + 1 = n - 1 by omega])
  rcases a.lt_or_eq with a | rfl
  · exact (eval_continuousOn_segment n x y hx i (by omega)).continuousAt (Icc_mem_nhds a b)
  · -- a knot: the closed segment on its left is a left neighbourhood, the closed segment on its right a right neighbourhood
    obtain ⟨j, rfl⟩ := Nat.exists_eq_succ_of_ne_zero (n := i) (by rintro rfl; exact lt_irrefl _ h0)
    have hj : x j < x (j + 1) := hx _ _ (Nat.lt_succ_self j) (by omega)
    exact continuousAt_iff_continuous_left_right.mpr
      ⟨(eval_continuousOn_segment n x y hx j (by omega) _ (Set.right_mem_Icc.mpr hj.le)).mono_of_mem_nhdsWithin (Icc_mem_nhdsLE hj),
        (eval_continuousOn_segment n x y hx (j + 1) (by omega) _ (Set.left_mem_Icc.mpr b.le)).mono_of_mem_nhdsWithin
          (Icc_mem_nhdsGE b)⟩

/-- non-vacuity: a strictly increasing table exists and the theorems apply to it -/
example : eval 4 (fun i => (i : ℝ)) (fun i => (i : ℝ) * 2) ((1 : ℕ) : ℝ) = ((1 : ℕ) : ℝ) * 2 :=
  c17_akima_interpolates 4 _ _ (fun a b h _ => by exact_mod_cast h) 1 (by norm_num) (by norm_num)

/-! ### how fast the interpolant can change (the bound used by the discontinuity search of the harness) -/

/-- the derivative of a Hermite segment in the normalised coordinate `u = (q − x0)/(x1 − x0)` -/
theorem hermiteDeriv_normalised (x0 x1 y0 y1 t0 t1 q : ℝ) (h : x1 ≠ x0) :
    hermiteDeriv x0 x1 y0 y1 t0 t1 q =
      3 * (t0 + t1 - 2 * ((y1 - y0) / (x1 - x0))) * ((q - x0) / (x1 - x0)) ^ 2
        + 2 * (3 * ((y1 - y0) / (x1 - x0)) - 2 * t0 - t1) * ((q - x0) / (x1 - x0)) + t0 := by
  have hd : x1 - x0 ≠ 0 := sub_ne_zero.mpr h
  simp only [hermiteDeriv]
  field_simp
  ring

/-- on the unit interval a quadratic is no larger than its coefficients together -/
theorem abs_quadratic_le {a b c u : ℝ} (hu : |u| ≤ 1) : |a * u ^ 2 + b * u + c| ≤ |a| + |b| + |c| := by
  have h2 : |a * u ^ 2| ≤ |a| := by
    rw [abs_mul, abs_pow]; exact mul_le_of_le_one_right (abs_nonneg a) (pow_le_one₀ (abs_nonneg u) hu)
  have h1 : |b * u| ≤ |b| := by rw [abs_mul]; exact mul_le_of_le_one_right (abs_nonneg b) hu
  exact (abs_add_three _ _ _).trans (add_le_add_left (add_le_add h2 h1) _)

/-- **slope bound of a segment**: if both knot slopes and the secant are bounded by `S`, the derivative of the segment is bounded by
`25 S` on the whole segment (a crude bound; `2.5 S` holds) -/
theorem hermiteDeriv_bound (x0 x1 y0 y1 t0 t1 q S : ℝ) (h : x0 < x1) (hq0 : x0 ≤ q) (hq1 : q ≤ x1)
    (h0 : |t0| ≤ S) (h1 : |t1| ≤ S) (hm : |(y1 - y0) / (x1 - x0)| ≤ S) :
    |hermiteDeriv x0 x1 y0 y1 t0 t1 q| ≤ 25 * S := by
  rw [hermiteDeriv_normalised _ _ _ _ _ _ _ h.ne']
  have hd : 0 < x1 - x0 := sub_pos.mpr h
  have hu : |(q - x0) / (x1 - x0)| ≤ 1 := by
    rw [abs_of_nonneg (div_nonneg (sub_nonneg.mpr hq0) hd.le), div_le_one hd]; linarith
  obtain ⟨l0, u0⟩ := abs_le.mp h0
  obtain ⟨l1, u1⟩ := abs_le.mp h1
  obtain ⟨lm, um⟩ := abs_le.mp hm
  have a1 : |3 * (t0 + t1 - 2 * ((y1 - y0) / (x1 - x0)))| ≤ 12 * S :=
    abs_le.mpr ⟨by linarith only [l0, l1, um], by linarith only [u0, u1, lm]⟩
  have a2 : |2 * (3 * ((y1 - y0) / (x1 - x0)) - 2 * t0 - t1)| ≤ 12 * S :=
    abs_le.mpr ⟨by linarith only [u0, u1, lm], by linarith only [l0, l1, um]⟩
  linarith only [h0, a1, a2, abs_quadratic_le (a := 3 * (t0 + t1 - 2 * ((y1 - y0) / (x1 - x0))))
    (b := 2 * (3 * ((y1 - y0) / (x1 - x0)) - 2 * t0 - t1)) (c := t0) hu]

/-- **a segment is Lipschitz with constant `25 S`** (mean value theorem on the segment): what the continuity search of the harness
relies on — no interpolant of the table can change faster than this between two altitudes of one segment -/
theorem hermite_lipschitz (x0 x1 y0 y1 t0 t1 S a b : ℝ) (h : x0 < x1) (ha : a ∈ Set.Icc x0 x1) (hb : b ∈ Set.Icc x0 x1)
    (h0 : |t0| ≤ S) (h1 : |t1| ≤ S) (hm : |(y1 - y0) / (x1 - x0)| ≤ S) :
    |hermite x0 x1 y0 y1 t0 t1 b - hermite x0 x1 y0 y1 t0 t1 a| ≤ 25 * S * |b - a| := by
  have := Convex.norm_image_sub_le_of_norm_hasDerivWithin_le (f := hermite x0 x1 y0 y1 t0 t1)
    (f' := hermiteDeriv x0 x1 y0 y1 t0 t1) (s := Set.Icc x0 x1) (C := 25 * S)
    (fun q _ => (hermite_hasDerivAt x0 x1 y0 y1 t0 t1 q).hasDerivWithinAt)
    (fun q hq => by rw [Real.norm_eq_abs]; exact hermiteDeriv_bound x0 x1 y0 y1 t0 t1 q S h hq.1 hq.2 h0 h1 hm)
    (convex_Icc x0 x1) ha hb
  simpa [Real.norm_eq_abs] using this

/-- on a segment, both knots included, the interpolant changes by at most `125 ·` (largest secant slope of the column) per unit of
altitude -/
theorem eval_lipschitz_segment (n : ℕ) (x y : ℕ → ℝ) (hx : Increasing n x) (S : ℝ) (hn : 3 ≤ n)
    (hs : ∀ j, j + 1 < n → |secant x y j| ≤ S) (i : ℕ) (hi : i + 2 ≤ n) (a b : ℝ)
    (ha : a ∈ Set.Icc (x i) (x (i + 1))) (hb : b ∈ Set.Icc (x i) (x (i + 1))) :
    |eval n x y b - eval n x y a| ≤ 125 * S * |b - a| := by
  have hS : 0 ≤ S := le_trans (abs_nonneg _) (hs 0 (by omega))
  have hk : ∀ j, |knotSlope n x y (maxTo (n - 1) (f12 n x y)) j| ≤ 5 * S := fun j =>
    knotSlope_bound n x y _ _ j (mExt_bound n x y S hn hs _) (mExt_bound n x y S hn hs _) (mExt_bound n x y S hn hs _)
      (mExt_bound n x y S hn hs _)
  rw [eval_segment n x y hx a i hi ha.1 ha.2, eval_segment n x y hx b i hi hb.1 hb.2]
  calc _ ≤ 25 * (5 * S) * |b - a| :=
        hermite_lipschitz _ _ _ _ _ _ (5 * S) a b (hx _ _ (Nat.lt_succ_self i) (by omega)) ha hb (hk i) (hk (i + 1))
          ((hs i (by omega)).trans (by linarith))
    _ = 125 * S * |b - a| := by ring

/-- **C17** within a segment the interpolant cannot change faster than `125 ·` (largest secant slope of the column) per unit of
altitude: the bound the discontinuity search of the harness demands of the real component -/
theorem c17_akima_lipschitz_on_segment (n : ℕ) (x y : ℕ → ℝ) (hx : Increasing n x) (S : ℝ) (hn : 3 ≤ n)
    (hs : ∀ j, j + 1 < n → |secant x y j| ≤ S) (i : ℕ) (hi : i + 2 ≤ n) (a b : ℝ)
    (ha : x i ≤ a ∧ a < x (i + 1)) (hb : x i ≤ b ∧ b < x (i + 1)) :
    |eval n x y b - eval n x y a| ≤ 125 * S * |b - a| :=
  eval_lipschitz_segment n x y hx S hn hs i hi a b ⟨ha.1, ha.2.le⟩ ⟨hb.1, hb.2.le⟩

end OAS.C17Akima
