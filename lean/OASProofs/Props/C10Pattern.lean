import OASProofs.Props.C10

/-!
# C10 (continued)  The sparse assembly of the stiffness matrix

`FEM.setup` builds the coordinate lists `k_rows`, `k_cols` of the global matrix from seven hand-written blocks of
`tile/repeat/arange` arithmetic, and `assemble_CSC_K` fills the matching data blocks from slices of the element matrices; scipy
sums duplicates.  `coo` is the transliteration of that coordinate list (block by block, compared **exactly** – rows, columns and
data – with `k_rows/k_cols/k_data` of the real component on every run); the theorem shows that summing the list entry by entry gives
the dense matrix `FEM.assembleK` that every other C10 / C02 theorem is about (symmetry, clamped root, equilibrium), for every
number of nodes.
-/
set_option linter.unusedSectionVars false
set_option linter.unusedSimpArgs false
namespace OAS
namespace C10Pattern
open Finset FEM

/-- indicator of one coordinate -/
noncomputable def at_ (r c r' c' : ℕ) (v : ℝ) : ℝ := if r' = r ∧ c' = c then v else 0

/-- a 6×6 block of coordinates starting at `(r0, c0)` with values `v a b` -/
noncomputable def blk (r c r0 c0 : ℕ) (v : ℕ → ℕ → ℝ) : ℝ := ∑ a ∈ range 6, ∑ b ∈ range 6, at_ r c (r0 + a) (c0 + b) (v a b)

/-- the dense matrix obtained by summing the coordinate list of `FEM.setup` / `assemble_CSC_K`
(blocks 1–5 and the two `1e9` constraint blocks) -/
noncomputable def coo (ny idx : ℕ) (kloc : ℕ → ℕ → ℕ → ℝ) (r c : ℕ) : ℝ :=
  (∑ e ∈ range (ny - 1), blk r c (6 * e) (6 * e + 6) (fun a b => kloc e a (6 + b)))          -- data1 = k_loc[:, :6, 6:]
  + (∑ e ∈ range (ny - 1), blk r c (6 * e + 6) (6 * e) (fun a b => kloc e (6 + a) b))        -- data2 = k_loc[:, 6:, :6]
  + blk r c 0 0 (fun a b => kloc 0 a b)                                                       -- data3 = k_loc[0, :6, :6]
  + blk r c (6 * (ny - 1)) (6 * (ny - 1)) (fun a b => kloc (ny - 2) (6 + a) (6 + b))         -- data4 = k_loc[-1, 6:, 6:]
  + (∑ e ∈ range (ny - 2), blk r c (6 * e + 6) (6 * e + 6) (fun a b => kloc e (6 + a) (6 + b) + kloc (e + 1) a b))  -- data5
  + (∑ a ∈ range 6, at_ r c (6 * idx + a) (6 * ny + a) 1000000000)                            -- rows6, cols6
  + (∑ a ∈ range 6, at_ r c (6 * ny + a) (6 * idx + a) 1000000000)                            -- cols6, rows6

/-- a diagonal run of `n` coordinates starting at `(r0, c0)`, all with the value `x` -/
theorem sum_at_diag (r c r0 c0 n : ℕ) (x : ℝ) :
    ∑ a ∈ range n, at_ r c (r0 + a) (c0 + a) x = if r0 ≤ r ∧ r < r0 + n ∧ c = c0 + (r - r0) then x else 0 := by
  unfold at_
  split_ifs with h
  · rw [Finset.sum_eq_single_of_mem (r - r0) (Finset.mem_range.mpr (by omega)) fun a _ ha => if_neg (by omega)]
    exact if_pos (by omega)
  · exact Finset.sum_eq_zero fun a ha => if_neg (by have := Finset.mem_range.mp ha; omega)

/-- an `nr × nc` block of coordinates starting at `(r0, c0)` with values `v a b` -/
theorem sum_sum_at (r c r0 c0 nr nc : ℕ) (v : ℕ → ℕ → ℝ) :
    ∑ a ∈ range nr, ∑ b ∈ range nc, at_ r c (r0 + a) (c0 + b) (v a b)
      = if r0 ≤ r ∧ r < r0 + nr ∧ c0 ≤ c ∧ c < c0 + nc then v (r - r0) (c - c0) else 0 := by
  unfold at_
  split_ifs with h
  · rw [Finset.sum_eq_single_of_mem (r - r0) (Finset.mem_range.mpr (by omega)) fun a _ ha =>
        Finset.sum_eq_zero fun b _ => if_neg (by omega),
      Finset.sum_eq_single_of_mem (c - c0) (Finset.mem_range.mpr (by omega)) fun b _ hb => if_neg (by omega)]
    exact if_pos (by omega)
  · exact Finset.sum_eq_zero fun a ha => Finset.sum_eq_zero fun b hb => if_neg (by
      have := Finset.mem_range.mp ha; have := Finset.mem_range.mp hb; omega)

/-- one element's 12×12 window as four 6×6 blocks: the sum over `12 = 6 + 6` rows and columns, split -/
theorem window_split (kl : ℕ → ℕ → ℝ) (e r c : ℕ) :
    (if 6 * e ≤ r ∧ r < 6 * e + 12 ∧ 6 * e ≤ c ∧ c < 6 * e + 12 then kl (r - 6 * e) (c - 6 * e) else 0)
      = blk r c (6 * e) (6 * e) (fun a b => kl a b) + blk r c (6 * e) (6 * e + 6) (fun a b => kl a (6 + b))
        + blk r c (6 * e + 6) (6 * e) (fun a b => kl (6 + a) b) + blk r c (6 * e + 6) (6 * e + 6) (fun a b => kl (6 + a) (6 + b)) := by
  rw [← sum_sum_at, show (12 : ℕ) = 6 + 6 from rfl]
  simp only [blk, Finset.sum_range_add, Finset.sum_add_distrib, Nat.add_assoc]
  ring

theorem blk_add (r c r0 c0 : ℕ) (v w : ℕ → ℕ → ℝ) :
    blk r c r0 c0 (fun a b => v a b + w a b) = blk r c r0 c0 v + blk r c r0 c0 w := by
  unfold blk at_
  rw [← Finset.sum_add_distrib]
  refine Finset.sum_congr rfl (fun a _ => ?_)
  rw [← Finset.sum_add_distrib]
  refine Finset.sum_congr rfl (fun b _ => ?_)
  split_ifs <;> simp

/-- the two constraint blocks: one coordinate pair per clamped degree of freedom, each way round -/
theorem constraint_eq (ny idx r c : ℕ) (hidx : idx < ny) :
    (∑ a ∈ range 6, at_ r c (6 * idx + a) (6 * ny + a) 1000000000) + (∑ a ∈ range 6, at_ r c (6 * ny + a) (6 * idx + a) 1000000000)
      = if (6 * ny ≤ c ∧ c < 6 * ny + 6 ∧ r = 6 * idx + (c - 6 * ny)) ∨ (6 * ny ≤ r ∧ r < 6 * ny + 6 ∧ c = 6 * idx + (r - 6 * ny))
        then ((1000000000 : ℕ) : ℝ) else 0 := by
  have hswap : ∀ a, at_ r c (6 * idx + a) (6 * ny + a) 1000000000 = at_ c r (6 * ny + a) (6 * idx + a) 1000000000 :=
    fun a => if_congr and_comm rfl rfl
  simp only [hswap, sum_at_diag]
  push_cast
  -- the two runs are disjoint: one lies right of the element columns, the other below the element rows
  by_cases h1 : 6 * ny ≤ c ∧ c < 6 * ny + 6 ∧ r = 6 * idx + (c - 6 * ny)
  · rw [if_pos h1, if_neg (by omega), if_pos (Or.inl h1), add_zero]
  · rw [if_neg h1, zero_add, if_congr (or_iff_right h1) rfl rfl]

/-- **The coordinate list of `FEM.setup` / `assemble_CSC_K`, summed entry by entry, is the dense stiffness matrix `assembleK`**,
for every number of nodes `ny ≥ 2`, every clamped node `idx < ny` and every row and column (constraint rows included) -/
theorem c10_coo_eq_assembleK (ny idx : ℕ) (hny : 2 ≤ ny) (hidx : idx < ny) (kloc : ℕ → ℕ → ℕ → ℝ) (r c : ℕ) :
    coo ny idx kloc r c = assembleK ny idx kloc r c := by
  unfold coo assembleK
  rw [add_assoc, constraint_eq ny idx r c hidx]
  congr 1
  rw [sumTo_eq_sum]
  -- every element window lies inside the first 6 ny rows and columns
  have hwin : ∀ e ∈ range (ny - 1),
      (if 6 * e ≤ r ∧ r < 6 * e + 12 ∧ 6 * e ≤ c ∧ c < 6 * e + 12 ∧ r < 6 * ny ∧ c < 6 * ny then kloc e (r - 6 * e) (c - 6 * e) else 0)
      = blk r c (6 * e) (6 * e) (fun a b => kloc e a b) + blk r c (6 * e) (6 * e + 6) (fun a b => kloc e a (6 + b))
        + blk r c (6 * e + 6) (6 * e) (fun a b => kloc e (6 + a) b) + blk r c (6 * e + 6) (6 * e + 6) (fun a b => kloc e (6 + a) (6 + b)) := by
    intro e he
    have he' := Finset.mem_range.mp he
    rw [← window_split (kloc e) e r c]
    exact if_congr (by omega) rfl rfl
  rw [Finset.sum_congr rfl hwin]
  simp only [Finset.sum_add_distrib]
  -- the diagonal blocks: first element's upper-left block, last element's lower-right block, and the sums of the overlaps
  obtain ⟨m, rfl⟩ : ∃ m, ny = m + 2 := ⟨ny - 2, by omega⟩
  have e1 : m + 2 - 1 = m + 1 := by omega
  have e2 : m + 2 - 2 = m := by omega
  rw [e1, e2]
  have hLL : ∑ e ∈ range (m + 1), blk r c (6 * e) (6 * e) (fun a b => kloc e a b)
      = blk r c 0 0 (fun a b => kloc 0 a b) + ∑ e ∈ range m, blk r c (6 * e + 6) (6 * e + 6) (fun a b => kloc (e + 1) a b) := by
    rw [Finset.sum_range_succ', add_comm]
    simp only [Nat.mul_zero, Nat.mul_succ]
  have hHH : ∑ e ∈ range (m + 1), blk r c (6 * e + 6) (6 * e + 6) (fun a b => kloc e (6 + a) (6 + b))
      = ∑ e ∈ range m, blk r c (6 * e + 6) (6 * e + 6) (fun a b => kloc e (6 + a) (6 + b))
        + blk r c (6 * (m + 1)) (6 * (m + 1)) (fun a b => kloc m (6 + a) (6 + b)) := by
    rw [Finset.sum_range_succ]
    simp only [Nat.mul_succ]
  have h5 : ∑ e ∈ range m, blk r c (6 * e + 6) (6 * e + 6) (fun a b => kloc e (6 + a) (6 + b) + kloc (e + 1) a b)
      = ∑ e ∈ range m, blk r c (6 * e + 6) (6 * e + 6) (fun a b => kloc e (6 + a) (6 + b))
        + ∑ e ∈ range m, blk r c (6 * e + 6) (6 * e + 6) (fun a b => kloc (e + 1) a b) := by
    rw [← Finset.sum_add_distrib]
    exact Finset.sum_congr rfl (fun e _ => blk_add _ _ _ _ _ _)
  rw [hLL, hHH, h5]
  ring

/-! ### the executable coordinate list (`FEM.cooEntries`, compared exactly with `k_rows/k_cols/k_data`) sums to `coo` -/

theorem denseOf_append (l l' : List (ℕ × ℕ × ℝ)) (r c : ℕ) : denseOf (l ++ l') r c = denseOf l r c + denseOf l' r c := by
  simp [denseOf, List.map_append, List.sum_append]

theorem denseOf_flatMap_range (n : ℕ) (f : ℕ → List (ℕ × ℕ × ℝ)) (r c : ℕ) :
    denseOf ((List.range n).flatMap f) r c = ∑ e ∈ range n, denseOf (f e) r c := by
  induction n with
  | zero => simp [denseOf]
  | succ n ih =>
    rw [List.range_succ, List.flatMap_append, denseOf_append, ih, Finset.sum_range_succ]
    simp [List.flatMap_cons, denseOf]

theorem denseOf_map_range (n : ℕ) (g : ℕ → ℕ × ℕ × ℝ) (r c : ℕ) :
    denseOf ((List.range n).map g) r c = ∑ a ∈ range n, at_ r c (g a).1 (g a).2.1 (g a).2.2 := by
  induction n with
  | zero => simp [denseOf]
  | succ n ih =>
    rw [List.range_succ, List.map_append, denseOf_append, ih, Finset.sum_range_succ]
    simp [denseOf, at_]

theorem denseOf_cooBlock (r0 c0 : ℕ) (v : ℕ → ℕ → ℝ) (r c : ℕ) : denseOf (cooBlock r0 c0 v) r c = blk r c r0 c0 v := by
  unfold cooBlock blk
  rw [denseOf_flatMap_range]
  exact Finset.sum_congr rfl (fun a _ => by rw [denseOf_map_range])

/-- **the transliterated coordinate list stands for `coo`** -/
theorem c10_entries_dense (ny idx : ℕ) (kloc : ℕ → ℕ → ℕ → ℝ) (r c : ℕ) :
    denseOf (cooEntries ny idx kloc) r c = coo ny idx kloc r c := by
  unfold cooEntries coo
  simp only [denseOf_append, denseOf_flatMap_range, denseOf_cooBlock, denseOf_map_range]
  norm_num

/-- hence: **the sparse matrix the code assembles is the dense matrix of the model**, for every size -/
theorem c10_sparse_assembly (ny idx : ℕ) (hny : 2 ≤ ny) (hidx : idx < ny) (kloc : ℕ → ℕ → ℕ → ℝ) (r c : ℕ) :
    denseOf (cooEntries ny idx kloc) r c = assembleK ny idx kloc r c := by
  rw [c10_entries_dense, c10_coo_eq_assembleK ny idx hny hidx]

/-- the clamped node of the code is a node of the beam -/
theorem clampIndex_lt (ny : ℕ) (sym : Bool) (hny : 2 ≤ ny) : clampIndex ny sym < ny := by
  unfold clampIndex; split <;> omega

/-- the list has `36 (4 ny − 5) + 12` entries (the length of `k_rows`) -/
theorem c10_entries_length (ny idx : ℕ) (hny : 2 ≤ ny) (kloc : ℕ → ℕ → ℕ → ℝ) :
    (cooEntries ny idx kloc).length = 36 * (ny - 1) + 36 * (ny - 1) + 36 + 36 + 36 * (ny - 2) + 6 + 6 := by
  have hb : ∀ r0 c0 (v : ℕ → ℕ → ℝ), (cooBlock r0 c0 v).length = 36 := by
    intro r0 c0 v; simp [cooBlock, List.length_flatMap]
  simp [cooEntries, List.length_flatMap, hb]
  ring

end C10Pattern
end OAS
