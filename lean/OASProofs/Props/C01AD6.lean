import OASProofs.Props.C01AD2
import OASProofs.Props.C01AD3

/-!
# C01 (continued)  Exactness of the derivative oracle: vortex rings, trailing legs, lattices (`EvalVelMtx.compute`)
-/
set_option linter.unusedSectionVars false
set_option linter.unusedSimpArgs false
set_option linter.unusedTactic false
set_option linter.unreachableTactic false
namespace OAS
namespace C01AD
open AD VLM

variable {t : ℝ}

/-- a vortex segment seen from the evaluation point is regular: both end points are off the evaluation point and the
`|r1||r2| + r1·r2 > 1e-10` branch of the kernel is taken (the evaluation point is not on the extension of the segment) -/
structure SegOK (r1 r2 : V3 ℝ) : Prop where
  n1 : 0 < r1.x * r1.x + r1.y * r1.y + r1.z * r1.z
  n2 : 0 < r2.x * r2.x + r2.y * r2.y + r2.z * r2.z
  den : (VLM.tol : ℝ) < V3.norm r1 * V3.norm r2 + V3.dot r1 r2

/-- a trailing leg is regular: the evaluation point is off its origin and not on the leg -/
structure LegOK (u r : V3 ℝ) : Prop where
  n : 0 < r.x * r.x + r.y * r.y + r.z * r.z
  den : Real.sqrt (r.x * r.x + r.y * r.y + r.z * r.z) * (Real.sqrt (r.x * r.x + r.y * r.y + r.z * r.z) - V3.dot u r) ≠ 0

/-- a vortex ring: the four segments, w.r.t. the evaluation point and the four corners -/
theorem ring_exact {vm : Mesh (Dual ℝ)} {fvm : ℝ → Mesh ℝ} {p : V3 (Dual ℝ)} {fp : ℝ → V3 ℝ}
    (hvm : ∀ i j, TracksV (vm i j) (fun s => fvm s i j) t) (hp : TracksV p fp t) (i j : ℕ)
    (hAB : SegOK (fp t - fvm t i (j + 1)) (fp t - fvm t i j)) (hBC : SegOK (fp t - fvm t i j) (fp t - fvm t (i + 1) j))
    (hCD : SegOK (fp t - fvm t (i + 1) j) (fp t - fvm t (i + 1) (j + 1)))
    (hDA : SegOK (fp t - fvm t (i + 1) (j + 1)) (fp t - fvm t i (j + 1))) :
    TracksV (ring vm p i j) (fun s => ring (fvm s) (fp s) i j) t := by
  have hA := hp.sub (hvm i (j + 1)); have hB := hp.sub (hvm i j)
  have hC := hp.sub (hvm (i + 1) j); have hD := hp.sub (hvm (i + 1) (j + 1))
  exact (((finiteVortex_exact hA hB hAB.n1 hAB.n2 hAB.den).add (finiteVortex_exact hB hC hBC.n1 hBC.n2 hBC.den)).add
    (finiteVortex_exact hC hD hCD.n1 hCD.n2 hCD.den)).add (finiteVortex_exact hD hA hDA.n1 hDA.n2 hDA.den)

/-- the trailing-edge segment and the two semi-infinite wake legs, w.r.t. the wake direction too -/
theorem trailing_exact {u : V3 (Dual ℝ)} {fu : ℝ → V3 ℝ} {vm : Mesh (Dual ℝ)} {fvm : ℝ → Mesh ℝ} {p : V3 (Dual ℝ)} {fp : ℝ → V3 ℝ}
    (hu : TracksV u fu t) (hvm : ∀ i j, TracksV (vm i j) (fun s => fvm s i j) t) (hp : TracksV p fp t) (i j : ℕ)
    (hDC : SegOK (fp t - fvm t (i + 1) (j + 1)) (fp t - fvm t (i + 1) j))
    (hD : LegOK (fu t) (fp t - fvm t (i + 1) (j + 1))) (hC : LegOK (fu t) (fp t - fvm t (i + 1) j)) :
    TracksV (trailing u vm p i j) (fun s => trailing (fu s) (fvm s) (fp s) i j) t := by
  have hCt := hp.sub (hvm (i + 1) j); have hDt := hp.sub (hvm (i + 1) (j + 1))
  exact ((finiteVortex_exact hDt hCt hDC.n1 hDC.n2 hDC.den).sub (semiInfVortex_exact hu hDt hD.n hD.den)).add
    (semiInfVortex_exact hu hCt hC.n hC.den)

/-- all kernel branches of ring `(i, j)` of the lattice starting at row `r0` are on their regular side -/
structure RingOK (u : V3 ℝ) (vm : Mesh ℝ) (r0 : ℕ) (p : V3 ℝ) (i j : ℕ) : Prop where
  hAB : SegOK (p - vm (r0 + i) (j + 1)) (p - vm (r0 + i) j)
  hBC : SegOK (p - vm (r0 + i) j) (p - vm (r0 + (i + 1)) j)
  hCD : SegOK (p - vm (r0 + (i + 1)) j) (p - vm (r0 + (i + 1)) (j + 1))
  hDA : SegOK (p - vm (r0 + (i + 1)) (j + 1)) (p - vm (r0 + i) (j + 1))
  hDC : SegOK (p - vm (r0 + (i + 1)) (j + 1)) (p - vm (r0 + (i + 1)) j)
  hD : LegOK u (p - vm (r0 + (i + 1)) (j + 1))
  hC : LegOK u (p - vm (r0 + (i + 1)) j)

/-- **one ring of a lattice with its trailing system** (`EvalVelMtx.compute`, one `(point, panel)` pair), w.r.t. the
evaluation point, the vortex mesh and the wake direction, on the regular side of every kernel branch -/
theorem latticeVel_exact (nx : ℕ) {u : V3 (Dual ℝ)} {fu : ℝ → V3 ℝ} {vm : Mesh (Dual ℝ)} {fvm : ℝ → Mesh ℝ} (r0 : ℕ)
    {p : V3 (Dual ℝ)} {fp : ℝ → V3 ℝ} (hu : TracksV u fu t) (hvm : ∀ i j, TracksV (vm i j) (fun s => fvm s i j) t)
    (hp : TracksV p fp t) (i j : ℕ) (h : RingOK (fu t) (fvm t) r0 (fp t) i j) :
    TracksV (latticeVel nx u vm r0 p i j) (fun s => latticeVel nx (fu s) (fvm s) r0 (fp s) i j) t := by
  have hm : ∀ a b, TracksV ((fun a b => vm (r0 + a) b) a b) (fun s => (fun a b => fvm s (r0 + a) b) a b) t :=
    fun a b => hvm (r0 + a) b
  have hr := ring_exact (vm := fun a b => vm (r0 + a) b) (fvm := fun s a b => fvm s (r0 + a) b) hm hp i j h.hAB h.hBC h.hCD h.hDA
  have htr := trailing_exact (vm := fun a b => vm (r0 + a) b) (fvm := fun s a b => fvm s (r0 + a) b) hu hm hp i j h.hDC h.hD h.hC
  simp only [latticeVel]
  by_cases hi : i + 2 = nx
  · simp only [hi, if_true]; exact hr.add htr
  · simp only [hi, if_false]; exact hr.add .zero

end C01AD
end OAS
