import OASModel
import OASProofs.Generated.Keys

/-!
# C20  Invalid set-ups are rejected loudly (decision logic)

Model: `OASModel/Validate.lean`; `OASProofs/Generated/Keys.lean` is regenerated from
`check_surface_dict.py` on every run.  Finiteness, run-to-run repeatability and non-mutation of the
user's mesh arrays are runtime / aliasing behaviour: they are monitored on the real code by the oracle of
every run, not proved.
-/
namespace OAS
namespace C20
open Validate

/-- **an even number of spanwise nodes is rejected (ValueError)**, whatever the wing type -/
theorem c20_even_num_y (numY : Nat) (r c : Bool) (h : numY % 2 = 0) : generateMesh numY r c = .valueError := by
  simp [generateMesh, h]

/-- **an unknown wing type is rejected (NameError)**; `rect` and every `CRM…` type are accepted for odd `num_y` -/
theorem c20_wing_type (numY : Nat) (h : numY % 2 = 1) :
    generateMesh numY false false = .nameError ∧ generateMesh numY true false = .ok ∧ generateMesh numY false true = .ok := by
  have h2 : ¬ numY % 2 = 0 := by omega
  simp [generateMesh, h2]

/-- **ground effect without symmetry is rejected (ValueError)** and only then -/
theorem c20_ground_effect (ground sym : Bool) : groundEffect ground sym = .valueError ↔ (ground = true ∧ sym = false) := by
  cases ground <;> cases sym <;> simp [groundEffect]

/-- **unknown structural model types are rejected (NameError)** -/
theorem c20_fem_model_type (fem : Nat) (a b : Bool) (h0 : fem ≠ 0) (h1 : fem ≠ 1) : structModel fem a b = .nameError := by
  simp [structModel, h0, h1]

/-- **exactly one of the two wingbox thickness distributions is rejected (NameError)**; both or none are accepted -/
theorem c20_wingbox_thickness (skin spar : Bool) :
    structModel 1 skin spar = (if skin = spar then Outcome.ok else Outcome.nameError) := by
  cases skin <;> cases spar <;> simp [structModel]

/-- the tube model never depends on the wingbox keys -/
theorem c20_tube (a b : Bool) : structModel 0 a b = .ok := by simp [structModel]

theorem ite_ite_and {α : Type} (p q : Prop) [Decidable p] [Decidable q] (a b : α) :
    (if p then (if q then a else b) else b) = if p ∧ q then a else b := by
  by_cases hp : p <;> simp [hp]

/-- `build_sections` accepts exactly when every list it reads has `num` entries, and otherwise raises a ValueError -/
theorem sections_eq (num : Nat) (gen : Bool) (lny lt ls lsw lm ln : Nat) :
    sections num gen lny lt ls lsw lm ln =
      if (if gen then lny = num ∧ lt = num ∧ ls = num ∧ lsw = num ∧ ln = num
          else lm = num ∧ ln = num ∧ lt = num ∧ ls = num ∧ lsw = num) then .ok else .valueError := by
  cases gen <;> simp only [sections, Bool.false_eq_true, if_false, if_true, ne_eq, ite_not, ite_ite_and]

/-- **multi-section lists of the wrong length are rejected (ValueError)**, and consistent ones accepted: with
generated meshes every list the generator reads, with user-provided meshes the meshes and every per-section
parameter list (the list `ny` is then not read at all) -/
theorem c20_sections (num : Nat) (gen : Bool) (lny lt ls lsw lm ln : Nat) :
    sections num gen lny lt ls lsw lm ln = .ok ↔
      (if gen then lny = num ∧ lt = num ∧ ls = num ∧ lsw = num ∧ ln = num
       else lm = num ∧ ln = num ∧ lt = num ∧ ls = num ∧ lsw = num) := by
  rw [sections_eq]
  refine ⟨fun h => Decidable.by_contra fun hP => ?_, fun hP => if_pos hP⟩
  rw [if_neg hP] at h
  cases h

/-- anything but acceptance is an error: a wrong-length list never produces numbers -/
theorem c20_sections_rejects (num : Nat) (gen : Bool) (lny lt ls lsw lm ln : Nat)
    (h : sections num gen lny lt ls lsw lm ln ≠ .ok) : sections num gen lny lt ls lsw lm ln = .valueError := by
  rw [sections_eq] at h ⊢
  exact if_neg fun hP => h (if_pos hP)

/-- the keys of the documented surface dictionary (the ones the examples and this framework's generators use) -/
def documentedKeys : List String := [
  "name", "symmetry", "S_ref_type", "mesh", "span", "taper", "sweep", "dihedral", "twist_cp", "chord_cp", "xshear_cp",
  "yshear_cp", "zshear_cp", "ref_axis_pos", "CL0", "CD0", "with_viscous", "with_wave", "groundplane", "k_lam",
  "t_over_c_cp", "c_max_t", "fem_model_type", "E", "G", "yield", "mrho", "fem_origin", "wing_weight_ratio",
  "exact_failure_constraint", "struct_weight_relief", "distributed_fuel_weight", "fuel_density", "Wf_reserve",
  "n_point_masses", "thickness_cp", "radius_cp", "spar_thickness_cp", "skin_thickness_cp",
  "original_wingbox_airfoil_t_over_c", "strength_factor_for_upper_skin", "data_x_upper", "data_y_upper",
  "data_x_lower", "data_y_lower"]

/-- **no documented key produces a warning** with the key list of the current source … -/
theorem c20_documented_keys_accepted : documentedKeys.all (fun k => !warns Generated.keysImplemented k) = true := by
  decide +kernel

/-- … **and an unknown key does** -/
theorem c20_unknown_key_warns : warns Generated.keysImplemented "twist_cpp" = true ∧ warns Generated.keysImplemented "Symmetry" = true := by
  decide +kernel

end C20
end OAS
