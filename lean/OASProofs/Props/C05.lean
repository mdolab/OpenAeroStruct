import OASProofs.Lemmas.Kernel
import OASProofs.Lemmas.Norm
import OASProofs.Lemmas.System

/-!
# C05  The VLM solution satisfies flow tangency; panel forces follow Kutta–Joukowski;
# the kernel is the Biot–Savart law

Model: `OASModel/VLM.lean`.  Any list of surfaces, any mesh sizes.
-/
set_option linter.unusedSectionVars false
set_option linter.unusedSimpArgs false
namespace OAS
namespace C05
open VLM Finset

/-- **Flow tangency.**  If the circulations `Γ` satisfy row `m` of the assembled system
`Σ_n mtx[m,n] Γ_n = rhs[m]` (which is what the linear solver returns), then at the collocation point
of panel `m` the normal component of
`free stream + rigid rotation + Σ_n Γ_n · (induction of ring n, with its trailing legs)` vanishes. -/
theorem c05_tangency (surfs : List (Surf ℝ)) (f : Flow ℝ) (gamma : ℕ → ℝ) (m : ℕ) (s : Surf ℝ) (i j : ℕ)
    (hloc : locate surfs m = some (s, i, j))
    (hsolve : ∑ n ∈ range (totalPanels surfs), aic surfs f m n * gamma n = rhs surfs f m) :
    V3.dot (onset f (collPt s i j)
        + V3.sumTo (totalPanels surfs) (fun n => V3.smul (gamma n) (influence surfs f (collPt s i j) n)))
      (normal s i j) = 0 := by
  have h := (row_eq surfs f gamma m s i j hloc).symm.trans hsolve
  simp only [rhs, hloc, indVel] at h
  rw [V3.dot_add_left, h, add_neg_cancel]

/-- **Collocation points are the ¾-chord mid-span points, force points the ¼-chord mid-span points**
of each panel, and the bound vector is the bound segment of the quarter-chord-shifted ring mesh. -/
theorem c05_points (s : Surf ℝ) (i j : ℕ) :
    collPt s i j = V3.smul (1 / 4) (V3.smul (1 / 2) (s.mesh i j + s.mesh i (j + 1)))
        + V3.smul (3 / 4) (V3.smul (1 / 2) (s.mesh (i + 1) j + s.mesh (i + 1) (j + 1))) ∧
    forcePt s i j = V3.smul (3 / 4) (V3.smul (1 / 2) (s.mesh i j + s.mesh i (j + 1)))
        + V3.smul (1 / 4) (V3.smul (1 / 2) (s.mesh (i + 1) j + s.mesh (i + 1) (j + 1))) ∧
    boundVec s i j = (V3.smul (3 / 4) (s.mesh i j) + V3.smul (1 / 4) (s.mesh (i + 1) j))
        - (V3.smul (3 / 4) (s.mesh i (j + 1)) + V3.smul (1 / 4) (s.mesh (i + 1) (j + 1))) := by
  refine ⟨?_, ?_, ?_⟩ <;> ext <;>
    simp only [collPt, forcePt, boundVec, dec_def, V3.add_x, V3.add_y, V3.add_z, V3.sub_x, V3.sub_y, V3.sub_z, V3.smul_x, V3.smul_y,
      V3.smul_z, Nat.cast_ofNat] <;> ring

/-- the force point lies on the bound segment of the ring mesh (its mid-point) -/
theorem c05_force_pt_on_bound_segment (s : Surf ℝ) (i j : ℕ) (h : i + 1 < s.nx) :
    forcePt s i j = V3.smul (1 / 2) (shiftQuarter s.nx s.mesh i j + shiftQuarter s.nx s.mesh i (j + 1)) := by
  ext <;> simp only [forcePt, shiftQuarter, if_pos h, dec_def, V3.add_x, V3.add_y, V3.add_z, V3.smul_x, V3.smul_y, V3.smul_z,
    Nat.cast_ofNat] <;> ring

/-- **Horseshoe circulation = chordwise difference of the ring strengths** (first row: the ring itself) -/
theorem c05_horseshoe (surfs : List (Surf ℝ)) (gamma : ℕ → ℝ) (m : ℕ) (s : Surf ℝ) (i j : ℕ)
    (hloc : locate surfs m = some (s, i, j)) :
    horseshoe surfs gamma m = if 1 ≤ i then gamma m - gamma (m - (s.ny - 1)) else gamma m := by
  simp [horseshoe, hloc]

/-- **Kutta–Joukowski**: the panel force is `ρ Γ_hs (V × l)` with `V` the onset velocity plus the
induction of every ring at the quarter-chord force point, `l` the bound vector. -/
theorem c05_force (surfs : List (Surf ℝ)) (f : Flow ℝ) (gamma : ℕ → ℝ) (m : ℕ) (s : Surf ℝ) (i j : ℕ)
    (hloc : locate surfs m = some (s, i, j)) :
    panelForce surfs f gamma m
      = V3.smul (f.rho * horseshoe surfs gamma m)
          (V3.cross (onset f (collPt s i j)
              + V3.sumTo (totalPanels surfs) (fun n => V3.smul (gamma n) (influence surfs f (forcePt s i j) n)))
            (boundVec s i j)) := by
  simp [panelForce, forcePtVelocity, hloc]

/-! ### the finite-vortex kernel is the Biot–Savart law of a straight filament -/

/-- Lagrange identity -/
theorem lagrange (a b : V3 ℝ) :
    V3.normSq (V3.cross a b) = V3.normSq a * V3.normSq b - V3.dot a b * V3.dot a b := by
  simp only [V3.normSq, V3.cross, V3.dot]; ring

/-- **The closed form used by the code equals the classical Biot–Savart expression**
`(r1 × r2)/|r1 × r2|² · (r0 · (r1/|r1| − r2/|r2|)) / 4π`, `r0 = r1 − r2`, wherever both are defined
(the point is off the line of the filament and the `tol` branch is taken). -/
theorem kernel_eq_biotSavart (r1 r2 : V3 ℝ) (h1 : V3.norm r1 ≠ 0) (h2 : V3.norm r2 ≠ 0)
    (hoff : V3.norm r1 * V3.norm r2 - V3.dot r1 r2 ≠ 0)
    (htol : tol < |V3.norm r1 * V3.norm r2 + V3.dot r1 r2|) :
    finiteVortex r1 r2
      = V3.smul (V3.dot (r1 - r2) (V3.smul (1 / V3.norm r1) r1 - V3.smul (1 / V3.norm r2) r2)
            / V3.normSq (V3.cross r1 r2) / (4 * Real.pi)) (V3.cross r1 r2) := by
  have hden : V3.norm r1 * V3.norm r2 + V3.dot r1 r2 ≠ 0 := fvDen_ne_zero htol
  have e1 : r1.x * r1.x + r1.y * r1.y + r1.z * r1.z = V3.norm r1 * V3.norm r1 := (V3.norm_mul_self r1).symm
  have e2 : r2.x * r2.x + r2.y * r2.y + r2.z * r2.z = V3.norm r2 * V3.norm r2 := (V3.norm_mul_self r2).symm
  -- both are multiples of `r1 × r2`; `|r1 × r2|² = (|r1||r2| − r1·r2)(|r1||r2| + r1·r2)` by Lagrange's identity
  have hfac : V3.normSq (V3.cross r1 r2)
      = (V3.norm r1 * V3.norm r2 - V3.dot r1 r2) * (V3.norm r1 * V3.norm r2 + V3.dot r1 r2) := by
    rw [lagrange, ← V3.norm_mul_self r1, ← V3.norm_mul_self r2]; ring
  have hnum : V3.dot (r1 - r2) (V3.smul (1 / V3.norm r1) r1 - V3.smul (1 / V3.norm r2) r2)
      = (1 / V3.norm r1 + 1 / V3.norm r2) * (V3.norm r1 * V3.norm r2 - V3.dot r1 r2) := by
    simp only [V3.dot, V3.sub_x, V3.sub_y, V3.sub_z, V3.smul_x, V3.smul_y, V3.smul_z]
    field_simp
    linear_combination V3.norm r2 * e1 + V3.norm r1 * e2
  rw [finiteVortex_of_tol htol, hnum, hfac, fvDen]
  congr 1
  field_simp

/-- the Kutta–Joukowski force is perpendicular both to the local velocity (the panel does no work on the flow: all
drag of the method is induced drag from the tilt of the local velocity) and to the bound vortex -/
theorem c05_force_perpendicular (surfs : List (Surf ℝ)) (f : Flow ℝ) (gamma : ℕ → ℝ) (m : ℕ) (s : Surf ℝ) (i j : ℕ)
    (hloc : locate surfs m = some (s, i, j)) :
    V3.dot (panelForce surfs f gamma m) (forcePtVelocity surfs f gamma m) = 0 ∧
    V3.dot (panelForce surfs f gamma m) (boundVec s i j) = 0 := by
  simp only [panelForce, hloc]
  constructor <;> simp only [V3.dot, V3.smul_x, V3.smul_y, V3.smul_z, V3.cross_x, V3.cross_y, V3.cross_z] <;> ring

/-- **whole-system tangency**: if `Γ` solves the assembled system then at *every* collocation point of *every*
surface the onset velocity plus the velocity induced by all rings of all surfaces is tangent to the panel -/
theorem c05_tangency_everywhere (surfs : List (Surf ℝ)) (f : Flow ℝ) (gamma : ℕ → ℝ)
    (hs : ∀ m, m < totalPanels surfs → ∑ n ∈ range (totalPanels surfs), aic surfs f m n * gamma n = rhs surfs f m)
    (m : ℕ) (s : Surf ℝ) (i j : ℕ) (hloc : locate surfs m = some (s, i, j)) :
    V3.dot (onset f (collPt s i j)
      + V3.sumTo (totalPanels surfs) (fun n => V3.smul (gamma n) (influence surfs f (collPt s i j) n))) (normal s i j) = 0 := by
  exact c05_tangency surfs f gamma m s i j hloc (hs m ((locate_isSome_iff surfs m).mp (by rw [hloc]; rfl)))

end C05
end OAS
