import OASProofs.Props.C01AD

/-!
# C01 (continued)  Exactness of the derivative oracle: beam finite elements and the vortex-lattice kernel
-/
set_option linter.unusedSectionVars false
set_option linter.unusedSimpArgs false
set_option linter.unusedTactic false
set_option linter.unreachableTactic false
namespace OAS
namespace C01AD
open AD

variable {t : ℝ}

/-! ### beam finite elements -/

theorem ofInt_tracks (z : ℤ) : Tracks (FEM.ofInt z : Dual ℝ) (fun _ => (FEM.ofInt z : ℝ)) t := by
  simp only [FEM.ofInt]; track

set_option maxHeartbeats 400000 in
/-- `LocalStiff`: every one of the 144 entries, w.r.t. `A, Iy, Iz, J, L` (E, G options) -/
theorem localStiff_exact (E G : ℝ) {A Iy Iz J L : Dual ℝ} {fA fIy fIz fJ fL : ℝ → ℝ} (hA : Tracks A fA t)
    (hIy : Tracks Iy fIy t) (hIz : Tracks Iz fIz t) (hJ : Tracks J fJ t) (hL : Tracks L fL t) (h0 : fL t ≠ 0) (r c : ℕ) :
    Tracks (FEM.localStiff (⟨E, 0⟩ : Dual ℝ) (⟨G, 0⟩ : Dual ℝ) A Iy Iz J L r c)
      (fun s => FEM.localStiff E G (fA s) (fIy s) (fIz s) (fJ s) (fL s) r c) t := by
  have h3 := mul_ne_zero (mul_ne_zero h0 h0) h0
  have hz : ∀ z : ℤ, Tracks (FEM.ofInt z : Dual ℝ) (fun _ => (FEM.ofInt z : ℝ)) t := fun z => ofInt_tracks z
  simp only [FEM.localStiff]; track

/-- `LocalStiffTransformed`: `Tᵀ K T`, every entry, w.r.t. the transform and the permuted element matrix -/
theorem transformed_exact {T Kp : ℕ → ℕ → Dual ℝ} {fT fK : ℝ → ℕ → ℕ → ℝ} (hT : ∀ a b, Tracks (T a b) (fun s => fT s a b) t)
    (hK : ∀ a b, Tracks (Kp a b) (fun s => fK s a b) t) (j k : ℕ) :
    Tracks (FEM.transformed T Kp j k) (fun s => FEM.transformed (fT s) (fK s) j k) t := by
  simp only [FEM.transformed]; track

theorem permuted_exact {Kl : ℕ → ℕ → Dual ℝ} {fK : ℝ → ℕ → ℕ → ℝ} (hK : ∀ a b, Tracks (Kl a b) (fun s => fK s a b) t) (j k : ℕ) :
    Tracks (FEM.permuted Kl j k) (fun s => FEM.permuted (fK s) j k) t := by
  simp only [FEM.permuted]; track

/-- `Transform`: the direction-cosine triad of an element, w.r.t. its two nodes -/
theorem triad_exact {P0 P1 : V3 (Dual ℝ)} {f0 f1 : ℝ → V3 ℝ} (h0 : TracksV P0 f0 t) (h1 : TracksV P1 f1 t)
    (hn : 0 < (f1 t - f0 t).x * (f1 t - f0 t).x + (f1 t - f0 t).y * (f1 t - f0 t).y + (f1 t - f0 t).z * (f1 t - f0 t).z)
    (hc : 0 < (V3.cross (FEM.triad (f0 t) (f1 t)).r0 ⟨1, 0, 0⟩).x * (V3.cross (FEM.triad (f0 t) (f1 t)).r0 ⟨1, 0, 0⟩).x
            + (V3.cross (FEM.triad (f0 t) (f1 t)).r0 ⟨1, 0, 0⟩).y * (V3.cross (FEM.triad (f0 t) (f1 t)).r0 ⟨1, 0, 0⟩).y
            + (V3.cross (FEM.triad (f0 t) (f1 t)).r0 ⟨1, 0, 0⟩).z * (V3.cross (FEM.triad (f0 t) (f1 t)).r0 ⟨1, 0, 0⟩).z) :
    TracksV (FEM.triad P0 P1).r0 (fun s => (FEM.triad (f0 s) (f1 s)).r0) t ∧
    TracksV (FEM.triad P0 P1).r1 (fun s => (FEM.triad (f0 s) (f1 s)).r1) t ∧
    TracksV (FEM.triad P0 P1).r2 (fun s => (FEM.triad (f0 s) (f1 s)).r2) t := by
  have hd := h1.sub h0
  have hN := Tracks.norm hd hn
  have hN0 := (Real.sqrt_pos.mpr hn).ne'
  have hr0 := TracksV.mk (hd.x.div hN hN0) (hd.y.div hN hN0) (hd.z.div hN hN0)
  have hC := hr0.cross (TracksV.mk Tracks.one Tracks.zero Tracks.zero)
  have hNc := Tracks.norm hC hc
  have hNc0 := (Real.sqrt_pos.mpr hc).ne'
  have hr1 := TracksV.mk (hC.x.div hNc hNc0) (hC.y.div hNc hNc0) (hC.z.div hNc hNc0)
  exact ⟨hr0, hr1, hr0.cross hr1⟩

/-- `FEM.apply_nonlinear`: the residual `K u − f`, w.r.t. the matrix, the state and the right-hand side -/
theorem residual_exact (n : ℕ) {Km : ℕ → ℕ → Dual ℝ} {fK : ℝ → ℕ → ℕ → ℝ} {u f : ℕ → Dual ℝ} {fu ff : ℕ → ℝ → ℝ}
    (hK : ∀ a b, Tracks (Km a b) (fun s => fK s a b) t) (hu : ∀ k, Tracks (u k) (fu k) t) (hf : ∀ k, Tracks (f k) (ff k) t)
    (r : ℕ) :
    Tracks (FEM.residual n Km u f r) (fun s => FEM.residual n (fK s) (fun k => fu k s) (fun k => ff k s) r) t := by
  simp only [FEM.residual]; track

/-- the assembled stiffness matrix (scatter of element matrices and constraint rows), every entry -/
theorem assembleK_exact (ny idx : ℕ) {kl : ℕ → ℕ → ℕ → Dual ℝ} {fk : ℝ → ℕ → ℕ → ℕ → ℝ}
    (hk : ∀ e a b, Tracks (kl e a b) (fun s => fk s e a b) t) (r c : ℕ) :
    Tracks (FEM.assembleK ny idx kl r c) (fun s => FEM.assembleK ny idx (fk s) r c) t := by
  simp only [FEM.assembleK]; track

/-! ### vortex-lattice geometry and kernel -/

theorem collPt_exact (s0 : VLM.Surf (Dual ℝ)) (fs : ℝ → VLM.Surf ℝ)
    (hm : ∀ i j, TracksV (s0.mesh i j) (fun s => (fs s).mesh i j) t) (i j : ℕ) :
    TracksV (VLM.collPt s0 i j) (fun s => VLM.collPt (fs s) i j) t ∧
    TracksV (VLM.forcePt s0 i j) (fun s => VLM.forcePt (fs s) i j) t ∧
    TracksV (VLM.boundVec s0 i j) (fun s => VLM.boundVec (fs s) i j) t := by
  refine ⟨⟨?_, ?_, ?_⟩, ⟨?_, ?_, ?_⟩, ⟨?_, ?_, ?_⟩⟩ <;> simp only [VLM.collPt, VLM.forcePt, VLM.boundVec] <;> track

/-- the semi-infinite trailing vortex, w.r.t. the wake direction and the relative position -/
theorem semiInfVortex_exact {u r : V3 (Dual ℝ)} {fu fr : ℝ → V3 ℝ} (hu : TracksV u fu t) (hr : TracksV r fr t)
    (hn : 0 < (fr t).x * (fr t).x + (fr t).y * (fr t).y + (fr t).z * (fr t).z)
    (hd : Real.sqrt ((fr t).x * (fr t).x + (fr t).y * (fr t).y + (fr t).z * (fr t).z)
        * (Real.sqrt ((fr t).x * (fr t).x + (fr t).y * (fr t).y + (fr t).z * (fr t).z) - V3.dot (fu t) (fr t)) ≠ 0) :
    TracksV (VLM.semiInfVortex u r) (fun s => VLM.semiInfVortex (fu s) (fr s)) t := by
  have h4 : ((4 : ℕ) : ℝ) ≠ 0 := by norm_num
  have hpi : Real.pi ≠ 0 := Real.pi_ne_zero
  replace hn : 0 < V3.normSq (fr t) := hn
  replace hd : V3.norm (fr t) * (V3.norm (fr t) - V3.dot (fu t) (fr t)) ≠ 0 := hd
  simp only [VLM.semiInfVortex]; track

/-- the finite vortex segment on the regular side of the `|den| > 1e-10` test (the side every collocation/force
point of a non-degenerate configuration is on) -/
theorem finiteVortex_exact {r1 r2 : V3 (Dual ℝ)} {f1 f2 : ℝ → V3 ℝ} (h1 : TracksV r1 f1 t) (h2 : TracksV r2 f2 t)
    (hn1 : 0 < (f1 t).x * (f1 t).x + (f1 t).y * (f1 t).y + (f1 t).z * (f1 t).z)
    (hn2 : 0 < (f2 t).x * (f2 t).x + (f2 t).y * (f2 t).y + (f2 t).z * (f2 t).z)
    (hden : (VLM.tol : ℝ) < V3.norm (f1 t) * V3.norm (f2 t) + V3.dot (f1 t) (f2 t)) :
    TracksV (VLM.finiteVortex r1 r2) (fun s => VLM.finiteVortex (f1 s) (f2 s)) t := by
  replace hn1 : 0 < V3.normSq (f1 t) := hn1
  replace hn2 : 0 < V3.normSq (f2 t) := hn2
  have hs1 : V3.norm (f1 t) ≠ 0 := (Real.sqrt_pos.mpr hn1).ne'
  have hs2 : V3.norm (f2 t) ≠ 0 := (Real.sqrt_pos.mpr hn2).ne'
  have hpos : (0 : ℝ) < V3.norm (f1 t) * V3.norm (f2 t) + V3.dot (f1 t) (f2 t) :=
    lt_trans (by simp [VLM.tol, dec_def]) hden
  have hlt : (VLM.tol : ℝ) < |V3.norm (f1 t) * V3.norm (f2 t) + V3.dot (f1 t) (f2 t)| := by rwa [abs_of_pos hpos]
  have h4 : ((4 : ℕ) : ℝ) ≠ 0 := by norm_num
  have hq := mul_ne_zero (mul_ne_zero hpos.ne' h4) Real.pi_ne_zero
  have hD : Tracks (V3.norm r1 * V3.norm r2 + V3.dot r1 r2) (fun s => V3.norm (f1 s) * V3.norm (f2 s) + V3.dot (f1 s) (f2 s)) t := by
    track
  unfold VLM.finiteVortex
  refine TracksV.ite_lt_pos (by unfold VLM.tol; track) (hD.abs hpos.ne') hlt ?_
  track

end C01AD
end OAS
