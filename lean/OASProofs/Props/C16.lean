import OASProofs.Lemmas.Basic
import OASProofs.Lemmas.Real

/-!
# C16  Mass, centre of gravity and inertial, fuel and thrust loads are conserved

Model: `OASModel/StructLoads.lean`.  `ny = m + 1` nodes, `m` elements.  The algebraic theorems
hold over every field of characteristic 0 equipped with *any* function in the role of `sqrt`
(no property of the square root is used: the lengths cancel); the statements about the
point-load weightings need an ordered field and are stated over ℝ.
-/
set_option linter.unusedSectionVars false
set_option linter.unusedSimpArgs false
namespace OAS
namespace C16
open Finset

section algebraic
variable {K : Type} [Field K] [CharZero K] [Elem K]

/-- **Structural mass** `= (2 if symmetric) · ρ · wwr · Σ_e A_e L_e`. -/
theorem c16_structural_mass (m : ℕ) (sym : Bool) (mrho wwr : K) (nodes : Pts K) (A : ℕ → K) :
    structuralMass (m + 1) sym mrho wwr nodes A
      = (if sym then 2 else 1) * (mrho * wwr * ∑ e ∈ range m, A e * elemLength nodes e) := by
  unfold structuralMass elementMass
  simp only [Nat.add_sub_cancel, sumTo_eq_sum, Finset.mul_sum]
  cases sym <;> simp only [Bool.false_eq_true, if_false, if_true, one_mul, Finset.sum_mul, Finset.mul_sum]
  · exact Finset.sum_congr rfl (fun e _ => by ring)
  · push_cast
    exact Finset.sum_congr rfl (fun e _ => by ring)

/-- **cg of a full-span surface is the mass-weighted centroid of the element mid-points**
(when fed with the structural mass of `Weight`, i.e. `M = Σ m_e ≠ 0`). -/
theorem c16_cg_full (m : ℕ) (nodes : Pts K) (em : ℕ → K) (M : K) (hM : M = ∑ e ∈ range m, em e) (h0 : M ≠ 0) :
    let cg := structuralCG (m + 1) false nodes M em
    cg.x * (∑ e ∈ range m, em e) = ∑ e ∈ range m, em e * (elemCenter nodes e).x ∧
    cg.y * (∑ e ∈ range m, em e) = ∑ e ∈ range m, em e * (elemCenter nodes e).y ∧
    cg.z * (∑ e ∈ range m, em e) = ∑ e ∈ range m, em e * (elemCenter nodes e).z := by
  simp only [structuralCG, Nat.add_sub_cancel, sumTo_eq_sum, Bool.false_eq_true, if_false, ← hM]
  refine ⟨?_, ?_, ?_⟩ <;>
  · rw [div_mul_cancel₀ _ h0]
    exact Finset.sum_congr rfl (fun e _ => by ring)

/-- **cg of a symmetric surface**: `y = 0`, and `x, z` are the mass-weighted centroid of the
modelled half (`M = 2 Σ m_e` is the mass of both halves). -/
theorem c16_cg_sym (m : ℕ) (nodes : Pts K) (em : ℕ → K) (M : K) (hM : M = 2 * ∑ e ∈ range m, em e)
    (h0 : M ≠ 0) :
    let cg := structuralCG (m + 1) true nodes M em
    cg.x * (∑ e ∈ range m, em e) = ∑ e ∈ range m, em e * (elemCenter nodes e).x ∧
    cg.y = 0 ∧
    cg.z * (∑ e ∈ range m, em e) = ∑ e ∈ range m, em e * (elemCenter nodes e).z := by
  have h2 : (∑ e ∈ range m, em e) = M / 2 := by rw [hM]; ring
  simp only [structuralCG, Nat.add_sub_cancel, sumTo_eq_sum, if_true, h2]
  refine ⟨?_, by simp, ?_⟩ <;>
  · push_cast
    field_simp
    exact Finset.sum_congr rfl (fun e _ => by ring)

/-- total force of an element → node distribution: `Σ_j F_j = (0, 0, −2 Σ_e zf_e)` -/
theorem distributed_force_total (m : ℕ) (zf bm3 bm4 : ℕ → K) :
    V3.sumTo (m + 1) (fun j => (distributedLoads (m + 1) zf bm3 bm4 j).f)
      = ⟨0, 0, -(2 * ∑ e ∈ range m, zf e)⟩ := by
  unfold distributedLoads
  ext
  · simp
  · simp
  · simp only [V3.sumTo_z, Nat.add_sub_cancel, zero_sub, Finset.sum_sub_distrib, Finset.sum_neg_distrib,
      sum_ite_lt_last, sum_ite_one_le]
    ring

/-- total moment about the origin of an element → node distribution: the `±bm` couples cancel and
what remains is the moment of the element forces `(0,0,−2 zf_e)` acting at the element mid-points -/
theorem distributed_moment_total (m : ℕ) (nodes : Pts K) (zf bm3 bm4 : ℕ → K) :
    V3.sumTo (m + 1) (fun j => (distributedLoads (m + 1) zf bm3 bm4 j).m
        + V3.cross (nodes j) (distributedLoads (m + 1) zf bm3 bm4 j).f)
      = V3.sumTo m (fun e => V3.cross (elemCenter nodes e) ⟨0, 0, -(2 * zf e)⟩) := by
  unfold distributedLoads elemCenter
  ext <;>
  · simp only [V3.sumTo_x, V3.sumTo_y, V3.sumTo_z, V3.add_x, V3.add_y, V3.add_z, V3.cross_x, V3.cross_y,
      V3.cross_z, Nat.add_sub_cancel, zero_sub, mul_zero, sub_zero, zero_mul, mul_sub, mul_add, mul_neg, mul_ite,
      Finset.sum_add_distrib, Finset.sum_sub_distrib, Finset.sum_neg_distrib, sum_ite_lt_last, sum_ite_one_le,
      Finset.sum_const_zero, neg_zero, add_zero, zero_add]
    try rw [← sub_eq_zero]
    try simp only [← Finset.sum_add_distrib, ← Finset.sum_sub_distrib, ← Finset.sum_neg_distrib]
    try (refine Finset.sum_eq_zero (fun e _ => ?_); push_cast; ring)

/-- **Structural-weight loads sum to `−(Σ m_e) · g · n` in `z`.** -/
theorem c16_weight_force_total (m : ℕ) (nodes : Pts K) (em : ℕ → K) (lf : K) :
    V3.sumTo (m + 1) (fun j => (structWeightLoads (m + 1) nodes em lf j).f)
      = ⟨0, 0, -((∑ e ∈ range m, em e) * lf * gravConstant)⟩ := by
  unfold structWeightLoads
  rw [distributed_force_total]
  ext <;> simp only [Finset.sum_mul, Finset.mul_sum]
  congr 1
  rw [← Finset.mul_sum]
  push_cast
  rw [Finset.mul_sum]
  exact Finset.sum_congr rfl (fun e _ => by ring)

/-- **… with the correct total moment**: that of the element weights at the element mid-points. -/
theorem c16_weight_moment_total (m : ℕ) (nodes : Pts K) (em : ℕ → K) (lf : K) :
    V3.sumTo (m + 1) (fun j => (structWeightLoads (m + 1) nodes em lf j).m
        + V3.cross (nodes j) (structWeightLoads (m + 1) nodes em lf j).f)
      = V3.sumTo m (fun e => V3.cross (elemCenter nodes e) ⟨0, 0, -(em e * lf * gravConstant)⟩) := by
  unfold structWeightLoads
  rw [distributed_moment_total]
  congr 1
  funext e
  congr 2
  push_cast
  ring

/-- **Fuel-weight loads sum to minus the (half-span share of the) fuel weight, reserve included.** -/
theorem c16_fuel_force_total (m : ℕ) (sym : Bool) (nodes : Pts K) (vols : ℕ → K) (fm rs lf : K)
    (hv : ∑ e ∈ range m, vols e ≠ 0) :
    V3.sumTo (m + 1) (fun j => (fuelLoads (m + 1) sym nodes vols fm rs lf j).f)
      = ⟨0, 0, -(fuelWeight sym fm rs lf)⟩ := by
  unfold fuelLoads
  rw [distributed_force_total]
  simp only [Nat.add_sub_cancel, sumTo_eq_sum]
  ext <;> simp only []
  congr 1
  push_cast
  rw [Finset.mul_sum]
  have : ∀ e, 2 * (vols e * fuelWeight sym fm rs lf / (∑ e ∈ range m, vols e) / 2)
      = vols e * (fuelWeight sym fm rs lf / ∑ e ∈ range m, vols e) := fun e => by ring
  simp only [this, ← Finset.sum_mul]
  field_simp

theorem c16_fuel_moment_total (m : ℕ) (sym : Bool) (nodes : Pts K) (vols : ℕ → K) (fm rs lf : K) :
    V3.sumTo (m + 1) (fun j => (fuelLoads (m + 1) sym nodes vols fm rs lf j).m
        + V3.cross (nodes j) (fuelLoads (m + 1) sym nodes vols fm rs lf j).f)
      = V3.sumTo m (fun e => V3.cross (elemCenter nodes e)
          ⟨0, 0, -(vols e * fuelWeight sym fm rs lf / sumTo m vols)⟩) := by
  unfold fuelLoads
  rw [distributed_moment_total]
  simp only [Nat.add_sub_cancel]
  congr 1
  funext e
  congr 2
  push_cast
  ring

/-- the fuel weight is `(fuel + reserve) · g · n`, halved for a symmetric surface -/
theorem c16_fuel_weight (sym : Bool) (fm rs lf : K) :
    fuelWeight sym fm rs lf = (fm + rs) * gravConstant * lf / (if sym then 2 else 1) := by
  unfold fuelWeight
  cases sym <;> simp

/-- **Fuel-volume margin = enclosed volume − required fuel volume** (half share when symmetric). -/
theorem c16_fuel_vol_delta (m : ℕ) (sym : Bool) (vols : ℕ → K) (fb rs rho : K) :
    fuelVolDelta (m + 1) sym vols fb rs rho
      = (∑ e ∈ range m, vols e) - ((fb + rs) / (if sym then 2 else 1)) / rho := by
  unfold fuelVolDelta
  simp only [Nat.add_sub_cancel, sumTo_eq_sum]
  cases sym <;> simp
  push_cast; ring

/-- total force of point loads: sum over nodes and points of the distributed forces -/
theorem point_force_total (ny np : ℕ) (nodes locs : Pts K) (force : ℕ → ℕ → V3 K) :
    V3.sumTo ny (fun j => (pointLoads ny np nodes locs force j).f)
      = V3.sumTo np (fun p => V3.sumTo ny (fun j => force p j)) := by
  refine V3.ext_linear fun p hp => ?_
  simp only [pointLoads, hp.map_sumTo]
  exact Finset.sum_comm

/-- total moment about the origin of point loads: each point's total force acts at its location -/
theorem point_moment_total (ny np : ℕ) (nodes locs : Pts K) (force : ℕ → ℕ → V3 K) :
    V3.sumTo ny (fun j => (pointLoads ny np nodes locs force j).m
        + V3.cross (nodes j) (pointLoads ny np nodes locs force j).f)
      = V3.sumTo np (fun p => V3.cross (locs p) (V3.sumTo ny (fun j => force p j))) := by
  refine V3.ext_linear fun p hp => ?_
  simp only [pointLoads, hp.map_sumTo, hp.add, (hp.cross_left _).map_sumTo, V3.cross_sub_left, hp.sub,
    ← Finset.sum_add_distrib, sub_add_cancel]
  exact Finset.sum_comm

/-- **TotalLoads is the sum of the enabled load sources.** -/
theorem c16_total_loads (relief fuel pm : Bool) (loads sw fw pml tl : ℕ → Load K) (j : ℕ) :
    (totalLoads relief fuel pm loads sw fw pml tl j).f
      = (loads j).f + (if relief then (sw j).f else 0) + (if fuel then (fw j).f else 0)
        + (if pm then (pml j).f + (tl j).f else 0) ∧
    (totalLoads relief fuel pm loads sw fw pml tl j).m
      = (loads j).m + (if relief then (sw j).m else 0) + (if fuel then (fw j).m else 0)
        + (if pm then (pml j).m + (tl j).m else 0) := by
  have hf : ∀ a b : Load K, (a + b).f = a.f + b.f := fun _ _ => rfl
  have hm : ∀ a b : Load K, (a + b).m = a.m + b.m := fun _ _ => rfl
  unfold totalLoads
  cases relief <;> cases fuel <;> cases pm <;>
    simp only [Bool.false_eq_true, if_false, if_true, hf, hm, add_zero, add_assoc, and_self]

end algebraic

section weights

/-- `x ** 10 ≥ 0` -/
theorem pow10_nonneg (x : ℝ) : 0 ≤ pow10 x := by
  unfold pow10
  have : 0 ≤ x * x := mul_self_nonneg x
  positivity

theorem invDist10_pos (nodes : Pts ℝ) (loc : V3 ℝ) (j : ℕ) : 0 < invDist10 nodes loc j := by
  unfold invDist10
  have h := pow10_nonneg (loc.y - (nodes j).y)
  have : (0 : ℝ) < dec 1 10000000000 := by simp only [dec_def]; positivity
  positivity

/-- **The nodal weightings of a point mass / thrust sum to one** (any `ny ≥ 1`, any location). -/
theorem c16_weightings_sum_one (n : ℕ) (nodes : Pts ℝ) (loc : V3 ℝ) :
    ∑ j ∈ range (n + 1), nodalWeighting (n + 1) nodes loc j = 1 := by
  unfold nodalWeighting
  rw [← Finset.sum_div, sumTo_eq_sum]
  apply div_self
  apply ne_of_gt
  exact Finset.sum_pos (fun j _ => invDist10_pos nodes loc j) (by simp)

/-- hence a quantity `c` distributed by the weightings is recovered in full -/
theorem sum_nodalWeighting_mul (n : ℕ) (nodes : Pts ℝ) (loc : V3 ℝ) (c : ℝ) :
    ∑ j ∈ range (n + 1), nodalWeighting (n + 1) nodes loc j * c = c := by
  rw [← Finset.sum_mul, c16_weightings_sum_one, one_mul]

/-- **Point-mass loads sum to `−g · n · Σ_p m_p` in `z`.** -/
theorem c16_point_mass_force_total (n np : ℕ) (nodes locs : Pts ℝ) (masses : ℕ → ℝ) (lf : ℝ) :
    V3.sumTo (n + 1) (fun j => (pointMassLoads (n + 1) np nodes locs masses lf j).f)
      = ⟨0, 0, -(gravConstant * lf * ∑ p ∈ range np, masses p)⟩ := by
  unfold pointMassLoads
  rw [point_force_total]
  ext <;> simp only [V3.sumTo_x, V3.sumTo_y, V3.sumTo_z, mul_assoc, sum_nodalWeighting_mul, zero_mul, Finset.sum_const_zero,
    Finset.mul_sum, neg_mul, one_mul, Finset.sum_neg_distrib]

/-- … with total moment `Σ_p loc_p × (0, 0, −m_p g n)`. -/
theorem c16_point_mass_moment_total (n np : ℕ) (nodes locs : Pts ℝ) (masses : ℕ → ℝ) (lf : ℝ) :
    V3.sumTo (n + 1) (fun j => (pointMassLoads (n + 1) np nodes locs masses lf j).m
        + V3.cross (nodes j) (pointMassLoads (n + 1) np nodes locs masses lf j).f)
      = V3.sumTo np (fun p => V3.cross (locs p) ⟨0, 0, -(gravConstant * lf * masses p)⟩) := by
  unfold pointMassLoads
  rw [point_moment_total]
  congr 1
  funext p
  congr 1
  ext <;> simp only [V3.sumTo_x, V3.sumTo_y, V3.sumTo_z, mul_assoc, sum_nodalWeighting_mul, zero_mul, neg_mul, one_mul]

/-- **Thrust loads sum to the thrust acting forward (−x).** -/
theorem c16_thrust_force_total (n np : ℕ) (nodes locs : Pts ℝ) (thr : ℕ → ℝ) :
    V3.sumTo (n + 1) (fun j => (thrustLoads (n + 1) np nodes locs thr j).f)
      = ⟨-(∑ p ∈ range np, thr p), 0, 0⟩ := by
  unfold thrustLoads
  rw [point_force_total]
  ext <;> simp only [V3.sumTo_x, V3.sumTo_y, V3.sumTo_z, mul_assoc, sum_nodalWeighting_mul, zero_mul, Finset.sum_const_zero,
    neg_mul, one_mul, Finset.sum_neg_distrib]

theorem c16_thrust_moment_total (n np : ℕ) (nodes locs : Pts ℝ) (thr : ℕ → ℝ) :
    V3.sumTo (n + 1) (fun j => (thrustLoads (n + 1) np nodes locs thr j).m
        + V3.cross (nodes j) (thrustLoads (n + 1) np nodes locs thr j).f)
      = V3.sumTo np (fun p => V3.cross (locs p) ⟨-(thr p), 0, 0⟩) := by
  unfold thrustLoads
  rw [point_moment_total]
  congr 1
  funext p
  congr 1
  ext <;> simp only [V3.sumTo_x, V3.sumTo_y, V3.sumTo_z, mul_assoc, sum_nodalWeighting_mul, zero_mul, neg_mul, one_mul]

end weights

end C16
end OAS
