import OASProofs.Lemmas.Rotation
import OASProofs.Lemmas.Norm

/-!
# C06  Aerodynamic results obey dynamic-pressure, scaling and translation laws

Model: `OASModel/VLM.lean`, `OASModel/AeroFunc.lean`.
-/
set_option linter.unusedSectionVars false
set_option linter.unusedSimpArgs false
namespace OAS
namespace C06
open VLM Finset

/-! ### density and speed -/

/-- the assembled system does not contain the density: circulations are independent of `ρ` -/
theorem c06_system_independent_of_rho (surfs : List (Surf ℝ)) (f : Flow ℝ) (k : ℝ) (m n : ℕ) :
    aic surfs { f with rho := k * f.rho } m n = aic surfs f m n ∧ rhs surfs { f with rho := k * f.rho } m = rhs surfs f m := by
  constructor <;> rfl

/-- **panel forces are linear in the density** (for the same circulations) -/
theorem c06_density (surfs : List (Surf ℝ)) (f : Flow ℝ) (k : ℝ) (gamma : ℕ → ℝ) (m : ℕ) :
    panelForce surfs { f with rho := k * f.rho } gamma m = V3.smul k (panelForce surfs f gamma m) := by
  unfold panelForce
  cases h : locate surfs m with
  | none => ext <;> simp
  | some t =>
    obtain ⟨s, i, j⟩ := t
    have : forcePtVelocity surfs { f with rho := k * f.rho } gamma m = forcePtVelocity surfs f gamma m := rfl
    simp only [this]
    ext <;> simp <;> ring

/-- free-stream direction scales with the speed -/
theorem freestream_speed (f : Flow ℝ) (k : ℝ) :
    freestreamDir { f with v := k * f.v } = V3.smul k (freestreamDir f) := by
  ext <;> simp [freestreamDir] <;> ring

theorem onset_speed (f : Flow ℝ) (hrot : f.rotational = false) (k : ℝ) (c : V3 ℝ) :
    onset { f with v := k * f.v } c = V3.smul k (onset f c) := by
  have h1 : onset { f with v := k * f.v } c = freestreamDir { f with v := k * f.v } := by
    simp [onset, hrot]
  have h2 : onset f c = freestreamDir f := by simp [onset, hrot]
  rw [h1, h2, freestream_speed]

/-- **speed**: without rotation rates the right-hand side is linear in `v` and the matrix does not
depend on it, so `k·Γ` solves the system at speed `k·v` -/
theorem c06_speed_solution (surfs : List (Surf ℝ)) (f : Flow ℝ) (hrot : f.rotational = false) (k : ℝ)
    (gamma : ℕ → ℝ) (m : ℕ)
    (hsolve : ∑ n ∈ range (totalPanels surfs), aic surfs f m n * gamma n = rhs surfs f m) :
    ∑ n ∈ range (totalPanels surfs), aic surfs { f with v := k * f.v } m n * (k * gamma n)
      = rhs surfs { f with v := k * f.v } m := by
  have ha : ∀ n, aic surfs { f with v := k * f.v } m n = aic surfs f m n := fun n => rfl
  have hr : rhs surfs { f with v := k * f.v } m = k * rhs surfs f m := by
    unfold rhs
    cases h : locate surfs m with
    | none => simp
    | some t =>
      obtain ⟨s, i, j⟩ := t
      simp only [onset_speed f hrot]
      simp [V3.dot]; ring
  simp only [ha, hr, ← hsolve, Finset.mul_sum]
  exact Finset.sum_congr rfl (fun n _ => by ring)

/-! ### length scaling of the kernel (degree −1) -/

/-- **the finite-vortex kernel is homogeneous of degree −1**, provided the `tol` branch agrees in the
two configurations (the code uses an absolute tolerance `1e-10` on a quantity of dimension length²) -/
theorem c06_kernel_scale (k : ℝ) (hk : 0 < k) (r1 r2 : V3 ℝ) (hn1 : V3.norm r1 ≠ 0) (hn2 : V3.norm r2 ≠ 0)
    (h1 : tol < |fvDen r1 r2|) (h2 : tol < |fvDen (V3.smul k r1) (V3.smul k r2)|) :
    finiteVortex (V3.smul k r1) (V3.smul k r2) = V3.smul (1 / k) (finiteVortex r1 r2) := by
  have hk0 := hk.ne'
  have hden := fvDen_ne_zero h1
  have hpi := Real.pi_ne_zero
  -- `|k r| = k |r|`, `den(k r1, k r2) = k² den(r1, r2)`, `k r1 × k r2 = k² (r1 × r2)`: the scalar factor of the kernel has degree −3
  have hs : fvDen (V3.smul k r1) (V3.smul k r2) = k * k * fvDen r1 r2 := by
    simp only [fvDen, V3.norm_smul_of_nonneg hk.le, V3.dot_smul_left, V3.dot_smul_right]; ring
  rw [finiteVortex_of_tol h2, finiteVortex_of_tol h1, hs, V3.cross_smul_smul, V3.smul_smul, V3.smul_smul,
    V3.norm_smul_of_nonneg hk.le, V3.norm_smul_of_nonneg hk.le]
  congr 1
  field_simp

/-- known finding F9: the tolerance is absolute, so for a small enough scale factor the kernel of a
perfectly regular configuration is zeroed and the scaling law fails. -/
theorem c06_tol_counterexample :
    ∃ (k : ℝ) (r1 r2 : V3 ℝ), 0 < k ∧ finiteVortex r1 r2 ≠ 0 ∧ finiteVortex (V3.smul k r1) (V3.smul k r2) = 0 := by
  refine ⟨1 / 1000000, ⟨1, 0, 0⟩, ⟨0, 1, 0⟩, by norm_num, ?_, ?_⟩
  · intro h
    have hz := congrArg V3.z h
    simp [finiteVortex, V3.norm, V3.cross, V3.dot, tol, dec_def] at hz
    have hlt : ¬ ((1 : ℝ) ≤ 10000000000⁻¹) := by norm_num
    exact hlt hz
  · have hn : ∀ a : ℝ, Real.sqrt (a * a + 0 * 0 + 0 * 0) = |a| := by
      intro a; simp [Real.sqrt_mul_self_eq_abs]
    unfold finiteVortex
    have hle : ¬ (tol < Elem.abs (V3.norm (V3.smul (1 / 1000000 : ℝ) ⟨1, 0, 0⟩) * V3.norm (V3.smul (1 / 1000000 : ℝ) ⟨0, 1, 0⟩)
        + V3.dot (V3.smul (1 / 1000000 : ℝ) ⟨1, 0, 0⟩) (V3.smul (1 / 1000000 : ℝ) ⟨0, 1, 0⟩))) := by
      simp only [V3.norm, V3.dot, V3.smul_x, V3.smul_y, V3.smul_z, elem_sqrt, elem_abs, tol, dec_def, mul_zero, mul_one,
        add_zero, zero_add, zero_mul]
      have e1 : Real.sqrt ((1 / 1000000 : ℝ) * (1 / 1000000)) = 1 / 1000000 := by
        rw [Real.sqrt_mul_self]; norm_num
      rw [e1]
      push_cast
      rw [abs_of_pos (by norm_num)]
      norm_num
    simp only [hle, if_false]

/-! ### translation -/

/-- **translating a lattice and the evaluation point together changes nothing** -/
theorem c06_translate (nx : ℕ) (u : V3 ℝ) (vm : Mesh ℝ) (r0 : ℕ) (p t : V3 ℝ) (i j : ℕ) :
    latticeVel nx u (fun a b => vm a b + t) r0 (p + t) i j = latticeVel nx u vm r0 p i j :=
  latticeVel_translate nx u vm r0 p t i j

/-! ### wind axes -/

/-- **drag is the component of the summed panel forces along the free stream, lift the component along
`(−sin α, 0, cos α)`, which is orthogonal to the free stream and to `y`** -/
theorem c06_wind_axes (np : ℕ) (alpha beta : ℝ) (F : ℕ → V3 ℝ) :
    let a := deg2rad alpha; let b := deg2rad beta
    let u : V3 ℝ := ⟨Real.cos a * Real.cos b, -Real.sin b, Real.sin a * Real.cos b⟩
    let l : V3 ℝ := ⟨-Real.sin a, 0, Real.cos a⟩
    (liftDrag np false alpha beta F).2 = V3.dot (V3.sumTo np F) u ∧
    (liftDrag np false alpha beta F).1 = V3.dot (V3.sumTo np F) l ∧
    V3.dot l u = 0 ∧ V3.dot u u = 1 ∧ V3.dot l ⟨0, 1, 0⟩ = 0 := by
  intro a b u l
  refine ⟨?_, ?_, ?_, ?_, ?_⟩
  · simp only [liftDrag, Bool.false_eq_true, if_false, sumTo_eq_sum, V3.dot_sumTo, elem_cos, elem_sin]
    exact Finset.sum_congr rfl fun k _ => by simp only [V3.dot, u, a, b]; ring
  · simp only [liftDrag, Bool.false_eq_true, if_false, sumTo_eq_sum, V3.dot_sumTo, elem_cos, elem_sin]
    exact Finset.sum_congr rfl fun k _ => by simp only [V3.dot, l, a]; ring
  · simp only [V3.dot, u, l]; ring
  · simp only [V3.dot, u]
    linear_combination Real.cos b ^ 2 * Real.sin_sq_add_cos_sq a + Real.sin_sq_add_cos_sq b
  · simp only [V3.dot, l]; ring

/-! ### translation of the whole configuration -/

/-- **Translating every surface and the centre of gravity by the same vector changes nothing**: the influence matrix,
the right-hand side (with rotation rates about the translated cg) and every panel force are identical, for any list
of surfaces without ground effect; if a surface is modelled with symmetry the translation must stay in the symmetry
plane (`d.y = 0`). -/
theorem c06_translation_invariant (d : V3 ℝ) (surfs : List (Surf ℝ)) (f : Flow ℝ)
    (hg : ∀ s ∈ surfs, s.ground = false) (hp : ∀ s ∈ surfs, s.sym = true → d.y = 0) :
    let f' : Flow ℝ := { f with cg := f.cg + d }
    let surfs' := surfs.map (mapSurf (shiftBy d))
    (∀ m n, aic surfs' f' m n = aic surfs f m n) ∧ (∀ m, rhs surfs' f' m = rhs surfs f m) ∧
    (∀ gamma m, panelForce surfs' f' gamma m = panelForce surfs f gamma m) := by
  intro f' surfs'
  have H : ShiftHyp d surfs f f' := ⟨hg, hp, rfl, rfl, rfl, rfl, rfl, rfl, rfl⟩
  exact ⟨H.rigid.aic_eq, H.rigid.rhs_eq H.onset_map, H.rigid.panelForce_eq H.onset_map⟩

end C06
end OAS
