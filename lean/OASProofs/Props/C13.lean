import OASProofs.Lemmas.Basic
import OASProofs.Lemmas.Real

/-!
# C13  Geometry design variables act as documented; defaults leave the mesh unchanged

Model: `OASModel/Geometry.lean` (`geometry_mesh_transformations.py`, `geometry_mesh.py`).
All theorems are for every mesh size; the hypotheses are explicit predicates on the mesh.
-/
set_option linter.unusedSectionVars false
set_option linter.unusedSimpArgs false
namespace OAS
namespace C13
open Geo

/-! ### predicates -/

/-- every chordwise row has the spanwise coordinate of the reference axis (true for all meshes of
the OAS generators) -/
def ChordwiseConstY {K : Type} [Add K] [Sub K] [Mul K] [One K] (nx : ℕ) (pos : K) (mesh : Mesh K) : Prop :=
  ∀ i j, (mesh i j).y = (refAxis nx pos mesh j).y

section field
variable {K : Type} [Field K]

/-! ### no-op at the default values (algebraic transformations) -/

theorem scaleAbout_one (ref : Pts K) (mesh : Mesh K) : scaleAbout ref (fun _ => 1) mesh = mesh := by
  funext i j; ext <;> simp [scaleAbout]

/-- **chord scale 1 leaves the mesh unchanged** -/
theorem c13_scaleX_default (nx : ℕ) (pos : K) (mesh : Mesh K) : scaleX nx pos mesh (fun _ => 1) = mesh :=
  scaleAbout_one _ _

/-- **zero shear leaves the mesh unchanged**, and a shear translates each section -/
theorem c13_shear_default (mesh : Mesh K) :
    shearX mesh (fun _ => 0) = mesh ∧ shearY mesh (fun _ => 0) = mesh ∧ shearZ mesh (fun _ => 0) = mesh := by
  refine ⟨?_, ?_, ?_⟩ <;> funext i j <;> ext <;> simp [shearX, shearY, shearZ]

theorem c13_shear_translates (mesh : Mesh K) (s : ℕ → K) (i j : ℕ) :
    shearX mesh s i j = mesh i j + ⟨s j, 0, 0⟩ ∧ shearY mesh s i j = mesh i j + ⟨0, s j, 0⟩ ∧
    shearZ mesh s i j = mesh i j + ⟨0, 0, s j⟩ := by
  refine ⟨?_, ?_, ?_⟩ <;> ext <;> simp [shearX, shearY, shearZ]

/-- scaling two numbers about their weighted mean `r` keeps the weighted mean -/
theorem mean_scaleAbout (p f a b r : K) (hr : r = p * a + (1 - p) * b) :
    p * (f * (a - r) + r) + (1 - p) * (f * (b - r) + r) = r := by
  subst hr; ring

/-- **Taper and chord scaling act about the reference axis**: the reference axis of the output is the
reference axis of the input. -/
theorem c13_scale_keeps_ref_axis (nx : ℕ) (pos : K) (mesh : Mesh K) (f : ℕ → K) (j : ℕ) :
    refAxis nx pos (scaleAbout (refAxis nx pos mesh) f mesh) j = refAxis nx pos mesh j := by
  ext <;> exact mean_scaleAbout pos (f j) _ _ _ rfl

/-- chord vectors (trailing minus leading edge) are scaled by the factor -/
theorem c13_scale_chord (nx : ℕ) (ref : Pts K) (mesh : Mesh K) (f : ℕ → K) (j : ℕ) :
    scaleAbout ref f mesh (nx - 1) j - scaleAbout ref f mesh 0 j = V3.smul (f j) (mesh (nx - 1) j - mesh 0 j) := by
  have key : ∀ a b r : K, f j * (a - r) + r - (f j * (b - r) + r) = f j * (a - b) := fun a b r => by ring
  ext <;> exact key _ _ _

theorem stretch_y (nx ny : ℕ) (sym : Bool) (pos : K) (mesh : Mesh K) (span : K) (i j : ℕ) :
    (stretch nx ny sym pos mesh span i j).y
      = (refAxis nx pos mesh j).y / ((refAxis nx pos mesh (ny - 1)).y - (refAxis nx pos mesh 0).y) * (if sym then span / 2 else span) := by
  cases sym <;> simp only [stretch, Bool.false_eq_true, if_false, if_true, Nat.cast_ofNat]

/-- **Stretch sets the tip-to-tip extent of the reference axis to `span`** (half of it for a
symmetric surface, whose other half is the mirror image). -/
theorem c13_stretch_extent (nx ny : ℕ) (sym : Bool) (pos : K) (mesh : Mesh K) (span : K)
    (h : (refAxis nx pos mesh (ny - 1)).y - (refAxis nx pos mesh 0).y ≠ 0) (i i' : ℕ) :
    (stretch nx ny sym pos mesh span i (ny - 1)).y - (stretch nx ny sym pos mesh span i' 0).y
      = if sym then span / 2 else span := by
  rw [stretch_y, stretch_y, ← sub_mul, ← sub_div, div_self h, one_mul]

/-- **Stretch with the current span is a no-op** for meshes whose chordwise rows share the
spanwise coordinate of the reference axis. -/
theorem c13_stretch_default (nx ny : ℕ) (sym : Bool) (pos : K) (mesh : Mesh K)
    (hy : ChordwiseConstY nx pos mesh)
    (h : (refAxis nx pos mesh (ny - 1)).y - (refAxis nx pos mesh 0).y ≠ 0) [CharZero K] :
    stretch nx ny sym pos mesh
      ((if sym then 2 else 1) * ((refAxis nx pos mesh (ny - 1)).y - (refAxis nx pos mesh 0).y)) = mesh := by
  funext i j
  ext
  · rfl
  · rw [stretch_y, hy i j]
    cases sym
    · rw [if_neg Bool.false_ne_true, if_neg Bool.false_ne_true, one_mul, div_mul_cancel₀ _ h]
    · rw [if_pos rfl, if_pos rfl, mul_div_cancel_left₀ _ two_ne_zero, div_mul_cancel₀ _ h]
  · rfl

/-- known finding F8b: without `ChordwiseConstY` the default span is *not* a no-op — `Stretch`
overwrites the `y` of every chordwise row with that of the reference axis. -/
theorem c13_stretch_overwrites_y (nx ny : ℕ) (sym : Bool) (pos : K) (mesh : Mesh K) (span : K) (i i' j : ℕ) :
    (stretch nx ny sym pos mesh span i j).y = (stretch nx ny sym pos mesh span i' j).y := rfl

end field

section interp
variable {K : Type} [Field K] [LinearOrder K] [IsStrictOrderedRing K]

/-- the taper distribution blends the tip and root values, with the distribution for tip value 0 and root value 1 as weight -/
theorem taperDist_blend (ny : ℕ) (sym : Bool) (ref : Pts K) (ftip froot : K) (j : ℕ) :
    taperDist ny sym ref ftip froot j = ftip + (froot - ftip) * taperDist ny sym ref 0 1 j := by
  unfold taperDist interp2 interp3
  cases sym <;> simp only [Bool.false_eq_true, if_false, if_true] <;> split_ifs <;> ring

/-- **taper ratio 1 leaves the mesh unchanged** -/
theorem c13_taper_default (nx ny : ℕ) (sym : Bool) (pos : K) (mesh : Mesh K) : taper nx ny sym pos mesh 1 = mesh := by
  have : taperDist ny sym (refAxis nx pos mesh) 1 1 = fun _ => 1 :=
    funext fun j => by rw [taperDist_blend, sub_self, zero_mul, add_zero]
  unfold taper
  simp only [this]
  exact scaleAbout_one _ _

/-- **Taper scales the chords linearly from 1 at the root to the taper ratio at the tip** (symmetric
left-half surface with the root of the reference axis on `y = 0`). -/
theorem c13_taper_linear (ny : ℕ) (ref : Pts K) (t : K) (j : ℕ)
    (hroot : (ref (ny - 1)).y = 0) (htip : (ref 0).y < 0) (hj0 : (ref 0).y ≤ (ref j).y) (hj1 : (ref j).y ≤ 0) :
    taperDist ny true ref t 1 j = t + (1 - t) * (((ref j).y - (ref 0).y) / (0 - (ref 0).y)) := by
  unfold taperDist interp2
  simp only [if_true, hroot, zero_sub, neg_neg]
  have hy0 : (ref 0).y ≠ 0 := ne_of_lt htip
  split_ifs with h1 h2
  · exact absurd h1 (not_lt.mpr hj0)
  · field_simp
    ring
  · have : (ref j).y = 0 := le_antisymm hj1 (not_lt.mp h2)
    rw [this]
    field_simp
    ring

theorem c13_taper_root_tip (ny : ℕ) (ref : Pts K) (t : K)
    (hroot : (ref (ny - 1)).y = 0) (htip : (ref 0).y < 0) :
    taperDist ny true ref t 1 (ny - 1) = 1 ∧ taperDist ny true ref t 1 0 = t := by
  constructor
  · have := c13_taper_linear ny ref t (ny - 1) hroot htip (by rw [hroot]; exact le_of_lt htip) (by rw [hroot])
    rw [this, hroot]
    have hne : (0 : K) - (ref 0).y ≠ 0 := ne_of_gt (by linarith)
    rw [div_self hne]; ring
  · have := c13_taper_linear ny ref t 0 hroot htip (le_refl _) (le_of_lt htip)
    rw [this]; simp

/-- the derivative reported by the repaired `Taper.compute_partials` is the derivative of `compute`:
the interpolated taper is affine in the taper ratio, `taper(t) = taper(0) + t · dtaper` -/
theorem taperDist_affine (ny : ℕ) (sym : Bool) (ref : Pts K) (t : K) (j : ℕ) :
    taperDist ny sym ref t 1 j = taperDist ny sym ref 0 1 j + t * taperDist ny sym ref 1 0 j := by
  rw [taperDist_blend ny sym ref t 1, taperDist_blend ny sym ref 1 0]; ring

end interp

section real

/-- `Sweep` is the x-shear, `Dihedral` the z-shear, by the shear distance times the tangent of the angle -/
theorem sweep_eq_shearX (ny : ℕ) (sym : Bool) (mesh : Mesh ℝ) (angle : ℝ) :
    sweep ny sym mesh angle = shearX mesh fun j => shearDist ny sym mesh j * Real.tan (Real.pi / 180 * angle) := rfl

theorem dihedral_eq_shearZ (ny : ℕ) (sym : Bool) (mesh : Mesh ℝ) (angle : ℝ) :
    dihedral ny sym mesh angle = shearZ mesh fun j => shearDist ny sym mesh j * Real.tan (Real.pi / 180 * angle) := rfl

/-- **zero sweep / zero dihedral leave the mesh unchanged** -/
theorem c13_sweep_default (ny : ℕ) (sym : Bool) (mesh : Mesh ℝ) : sweep ny sym mesh 0 = mesh := by
  rw [sweep_eq_shearX, mul_zero, Real.tan_zero]
  simp only [mul_zero]
  exact (c13_shear_default mesh).1

theorem c13_dihedral_default (ny : ℕ) (sym : Bool) (mesh : Mesh ℝ) : dihedral ny sym mesh 0 = mesh := by
  rw [dihedral_eq_shearZ, mul_zero, Real.tan_zero]
  simp only [mul_zero]
  exact (c13_shear_default mesh).2.2

/-- left-half symmetric surface (`y ≤ y_root`, the root is the last node): the shear distance is `|y − y_root|` -/
theorem shearDist_sym (ny : ℕ) (mesh : Mesh ℝ) (j : ℕ) (hy : (mesh 0 j).y ≤ (mesh 0 (ny - 1)).y) :
    shearDist ny true mesh j = |(mesh 0 j).y - (mesh 0 (ny - 1)).y| :=
  (if_pos rfl).trans (abs_of_nonpos (sub_nonpos.2 hy)).symm

/-- full-span surface with `y` increasing through the centre node: the shear distance is `|y − y_centre|` on both sides -/
theorem shearDist_full (ny : ℕ) (mesh : Mesh ℝ) (j : ℕ)
    (hl : j < (ny - 1) / 2 → (mesh 0 j).y ≤ (mesh 0 ((ny - 1) / 2)).y)
    (hr : (ny - 1) / 2 ≤ j → (mesh 0 ((ny - 1) / 2)).y ≤ (mesh 0 j).y) :
    shearDist ny false mesh j = |(mesh 0 j).y - (mesh 0 ((ny - 1) / 2)).y| := by
  refine (if_neg Bool.false_ne_true).trans ?_
  by_cases h : j < (ny - 1) / 2
  · exact (if_pos h).trans (abs_of_nonpos (sub_nonpos.2 (hl h))).symm
  · exact (if_neg h).trans (abs_of_nonneg (sub_nonneg.2 (hr (not_lt.1 h)))).symm

/-- **Sweep displaces `x` by `|y − y_root| · tan θ`, keeps `y` and `z`** (left-half symmetric surface:
the root is the last node and `y ≤ y_root`); positive angles move the tip aft. -/
theorem c13_sweep_effect (ny : ℕ) (mesh : Mesh ℝ) (angle : ℝ) (i j : ℕ) (hy : (mesh 0 j).y ≤ (mesh 0 (ny - 1)).y) :
    sweep ny true mesh angle i j
      = ⟨(mesh i j).x + |(mesh 0 j).y - (mesh 0 (ny - 1)).y| * Real.tan (Real.pi / 180 * angle),
         (mesh i j).y, (mesh i j).z⟩ := by
  rw [← shearDist_sym ny mesh j hy]; rfl

theorem c13_dihedral_effect (ny : ℕ) (mesh : Mesh ℝ) (angle : ℝ) (i j : ℕ) (hy : (mesh 0 j).y ≤ (mesh 0 (ny - 1)).y) :
    dihedral ny true mesh angle i j
      = ⟨(mesh i j).x, (mesh i j).y,
         (mesh i j).z + |(mesh 0 j).y - (mesh 0 (ny - 1)).y| * Real.tan (Real.pi / 180 * angle)⟩ := by
  rw [← shearDist_sym ny mesh j hy]; rfl

/-- full-span surface: the shift is `|y − y_centre| tan θ` on both sides of the centre node -/
theorem c13_sweep_effect_full (ny : ℕ) (mesh : Mesh ℝ) (angle : ℝ) (i j : ℕ)
    (hl : j < (ny - 1) / 2 → (mesh 0 j).y ≤ (mesh 0 ((ny - 1) / 2)).y)
    (hr : (ny - 1) / 2 ≤ j → (mesh 0 ((ny - 1) / 2)).y ≤ (mesh 0 j).y) :
    (sweep ny false mesh angle i j).x
      = (mesh i j).x + |(mesh 0 j).y - (mesh 0 ((ny - 1) / 2)).y| * Real.tan (Real.pi / 180 * angle) := by
  rw [← shearDist_full ny mesh j hl hr]; rfl
/-- **A spanwise-dependent x-shear (sweep, x-shear) preserves the projected panel areas** when the
chordwise rows share their `y` (the planform area is kept). -/
theorem c13_xshear_preserves_projected_area (mesh : Mesh ℝ) (s : ℕ → ℝ) (i j : ℕ)
    (hy : ∀ i j, (mesh (i + 1) j).y = (mesh i j).y) :
    (VLMGeometry.rawNormal (VLMGeometry.projMesh (shearX mesh s)) i j).z
      = (VLMGeometry.rawNormal (VLMGeometry.projMesh mesh) i j).z := by
  simp only [VLMGeometry.rawNormal, VLMGeometry.projMesh, shearX, V3.cross_z, V3.sub_x, V3.sub_y]
  rw [hy i j, hy i (j + 1)]
  ring

/-! ### twist -/

/-- the rotation matrices of `Rotate` are orthogonal: **twist preserves chord length** -/
theorem c13_rotate_preserves_length (tx ty : ℝ) (v : V3 ℝ) :
    V3.normSq ((rotMat tx ty).mulVec v) = V3.normSq v := by
  simp only [rotMat, M3.mulVec, V3.normSq, elem_cos, elem_sin]
  have h1 := Real.sin_sq_add_cos_sq tx
  have h2 := Real.sin_sq_add_cos_sq ty
  set cx := Real.cos tx; set sx := Real.sin tx; set cy := Real.cos ty; set sy := Real.sin ty
  have e1 : sx ^ 2 = 1 - cx ^ 2 := by linarith
  have e2 : sy ^ 2 = 1 - cy ^ 2 := by linarith
  ring_nf
  rw [e1, e2]
  ring

/-- a linear map applied about the weighted mean `r` of two points keeps the weighted mean -/
theorem mean_mulVec_about (M : M3 ℝ) (p : ℝ) (a b r : V3 ℝ) (hr : r = V3.smul p a + V3.smul (1 - p) b) :
    V3.smul p (M.mulVec (a - r) + r) + V3.smul (1 - p) (M.mulVec (b - r) + r) = r := by
  subst hr
  ext <;> simp only [M3.mulVec, V3.add_x, V3.add_y, V3.add_z, V3.sub_x, V3.sub_y, V3.sub_z, V3.smul_x, V3.smul_y, V3.smul_z] <;> ring

/-- **twist rotates about the reference axis**: the reference axis is unchanged -/
theorem c13_rotate_keeps_ref_axis (nx ny : ℕ) (sym rx : Bool) (pos : ℝ) (mesh : Mesh ℝ) (tw : ℕ → ℝ) (j : ℕ) :
    refAxis nx pos (rotate nx ny sym rx pos mesh tw) j = refAxis nx pos mesh j :=
  mean_mulVec_about _ pos _ _ _ rfl

/-- at zero twist the rotation matrix turns a section about the `x` axis only, by the dihedral angle `tx` -/
theorem rotMat_zero_twist (tx : ℝ) (v : V3 ℝ) :
    (rotMat tx (deg2rad 0)).mulVec v = ⟨v.x, Real.cos tx * v.y - Real.sin tx * v.z, Real.sin tx * v.y + Real.cos tx * v.z⟩ := by
  ext <;> simp only [rotMat, M3.mulVec, deg2rad, zero_mul, zero_div, elem_cos, elem_sin, Real.cos_zero, Real.sin_zero] <;> ring

/-- **zero twist is a no-op** when the reference axis has no dihedral (`thetaX = 0`), or when the
x-rotation is disabled -/
theorem c13_rotate_default (nx ny : ℕ) (sym rx : Bool) (pos : ℝ) (mesh : Mesh ℝ)
    (h : rx = true → ∀ j, thetaX ny sym (refAxis nx pos mesh) j = 0) :
    rotate nx ny sym rx pos mesh (fun _ => 0) = mesh := by
  funext i j
  have htx : (if rx = true then thetaX ny sym (refAxis nx pos mesh) j else 0) = 0 := by
    split_ifs with hr
    · exact h hr j
    · rfl
  simp only [rotate, htx, rotMat_zero_twist, Real.cos_zero, Real.sin_zero]
  ext <;> simp

/-- zero twist is also a no-op, whatever the dihedral, for sections that lie on the reference
axis line in `y` and `z` (flat, uncambered chord along `x`) -/
theorem c13_rotate_default_flat (nx ny : ℕ) (sym rx : Bool) (pos : ℝ) (mesh : Mesh ℝ) (i j : ℕ)
    (hy : (mesh i j).y = (refAxis nx pos mesh j).y) (hz : (mesh i j).z = (refAxis nx pos mesh j).z) :
    rotate nx ny sym rx pos mesh (fun _ => 0) i j = mesh i j := by
  simp only [rotate, rotMat_zero_twist]
  ext <;> simp [hy, hz]

/-- known finding F8a: with dihedral of the reference axis (`sin θx ≠ 0`) a cambered / pre-twisted
section (`z` offset from the reference axis) is moved by *zero* twist. -/
theorem c13_rotate_default_counterexample (nx ny : ℕ) (sym : Bool) (pos : ℝ) (mesh : Mesh ℝ) (i j : ℕ)
    (hs : Real.sin (thetaX ny sym (refAxis nx pos mesh) j) ≠ 0)
    (hy : (mesh i j).y = (refAxis nx pos mesh j).y) (hz : (mesh i j).z ≠ (refAxis nx pos mesh j).z) :
    (rotate nx ny sym true pos mesh (fun _ => 0) i j).y ≠ (mesh i j).y := by
  simp only [rotate, rotMat_zero_twist, if_true, V3.add_y, V3.sub_y, V3.sub_z, hy, sub_self, mul_zero, zero_sub]
  intro h
  rcases mul_eq_zero.mp (show Real.sin (thetaX ny sym (refAxis nx pos mesh) j) * ((mesh i j).z - (refAxis nx pos mesh j).z) = 0 by
    linarith) with h1 | h1
  · exact hs h1
  · exact hz (sub_eq_zero.1 h1)
end real

end C13
end OAS
