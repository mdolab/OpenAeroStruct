import OASProofs.Props.C08
import OASProofs.Lemmas.Reflection
import OASProofs.Lemmas.Rotation
import OASProofs.Lemmas.System

/-!
# C08 (continued)  No flow through the ground plane

With ground effect every ring of a surface is accompanied by the ring of the reflected lattice with the opposite
circulation.  Consequences proved here for the model of `vortex_mesh.py` / `eval_mtx.py`: the velocity a ring pair
induces at a point `p` is `V(p) + R V(p')` (`V`: induction of the real lattice, `p'`: mirror image of `p` across the
ground plane, `R`: the linear part of the reflection); hence **on the ground plane the normal component of the
induced velocity vanishes identically**, for every circulation distribution – which, together with the free stream
being parallel to the plane, is the boundary condition the method of images is meant to enforce.
-/
set_option linter.unusedSectionVars false
set_option linter.unusedSimpArgs false
namespace OAS
namespace C08
open VLM

/-- the wake direction is invariant under the reflection (the plane is parallel to the wake) -/
theorem reflN_wake (alphaDeg : ℝ) : reflN (planeNormal (deg2rad alphaDeg)) (wakeDir alphaDeg) = wakeDir alphaDeg :=
  reflN_of_dot_eq_zero (c08_plane_parallel_to_wake alphaDeg)

/-- **ring pair = real ring + reflected field**: `velRaw(p) = V(p) + R V(A p)` -/
theorem c08_pair_field (s : Surf ℝ) (hg : s.ground = true) (alphaDeg h : ℝ) (p : V3 ℝ) (i jj : ℕ) (hi : i + 1 < s.nx) :
    let a := deg2rad alphaDeg
    let V := fun q => latticeVel s.nx (wakeDir alphaDeg) (shiftQuarter s.nx (extMesh s)) 0 q i jj
    velRaw s (wakeDir alphaDeg) (vortexMesh s a h) p i jj = V p + reflN (planeNormal a) (V (groundReflect a h p)) := by
  intro a V
  have hR := reflN_isOrtho (planeNormal a) (planeNormal_unit a)
  -- `groundReflect` is the affine map `A v = R v + t`, and `p = A (A p)`
  have hA := fun m => (groundReflect_eq a h m).trans (hR.about_point m _)
  have hd : ∀ r c, p - groundReflect a h (shiftQuarter s.nx (extMesh s) r c)
      = reflN (planeNormal a) (groundReflect a h p - shiftQuarter s.nx (extMesh s) r c) := fun r c => by
    conv_lhs => rw [← c08_reflect_involution a h p]
    rw [sub_map hA, hR.sub]
  have h2 := latticeVel_ortho hR s.nx (wakeDir alphaDeg) 0 hd i jj
  rw [reflN_wake] at h2
  rw [c08_images s hg (wakeDir alphaDeg) a h p i jj hi, funext₂ (shiftQuarter_map hR hA s.nx (extMesh s)), h2]
  ext <;> simp [V]

/-- **No flow through the ground plane**: at every point of the ground plane the velocity induced by any ring together
with its image has no component normal to the plane – for every ring of every ground-effect surface, hence for every
circulation distribution. -/
theorem c08_no_flow_through_ground (s : Surf ℝ) (hg : s.ground = true) (alphaDeg h : ℝ) (p : V3 ℝ) (i jj : ℕ)
    (hi : i + 1 < s.nx) (hp : groundReflect (deg2rad alphaDeg) h p = p) :
    V3.dot (velRaw s (wakeDir alphaDeg) (vortexMesh s (deg2rad alphaDeg) h) p i jj) (planeNormal (deg2rad alphaDeg)) = 0 := by
  have := c08_pair_field s hg alphaDeg h p i jj hi
  simp only at this
  rw [this, hp, V3.dot_add_left, reflN_dot_normal (planeNormal_unit _), add_neg_cancel]

/-- the free stream at zero sideslip is parallel to the ground plane too: total normal velocity on the plane is zero -/
theorem c08_freestream_parallel (f : Flow ℝ) (hb : f.beta = 0) :
    V3.dot (freestreamDir f) (planeNormal (deg2rad f.alpha)) = 0 := by
  simp [freestreamDir, planeNormal, V3.dot, hb, deg2rad]; ring

end C08
end OAS
