import OASProofs.Props.C14

/-!
# C14 (continued)  The multi-section mesh generator joins its sections edge to edge

Model: `OASModel/Sections.lean` (`geometry_mesh_gen.py: generate_section_geometry`, after the repair F16).  Every section is built
from the chord, trailing-edge position and spanwise station of the outboard edge of its inboard neighbour.  Theorems: a section
starts exactly on that data (inboard edge), ends on the tapered, swept edge one span further out (outboard edge), and therefore
**consecutive sections share their edge node for node** – for any number of sections on either side of the root section, any
numbers of spanwise and chordwise points, any taper ≥ 0, span ≠ 0 and sweep.
-/
set_option linter.unusedSectionVars false
set_option linter.unusedSimpArgs false
namespace OAS
namespace C14Sections
open Sections MeshGen C14

variable (nx : ℕ) (s : Spec ℝ) (c te y0 : ℝ)

/-- a left-wing section starts on the data it is given: its inboard edge (last column) -/
theorem left_inboard (hny : 1 ≤ s.ny) (i : ℕ) :
    (leftSection nx s c te y0).x i (s.ny - 1) = linspace (c + te) te nx i ∧ (leftSection nx s c te y0).y (s.ny - 1) = y0 := by
  simp only [leftSection, linspace_last _ _ s.ny hny]
  constructor
  · ring
  · trivial

/-- … and ends one span further out on the tapered, swept chord: its outboard edge (column 0) -/
theorem left_outboard (hny : 2 ≤ s.ny) (hb : s.span ≠ 0) (i : ℕ) :
    (leftSection nx s c te y0).x i 0
        = linspace (c + te - s.span * Real.tan s.sweep) (c + te - s.span * Real.tan s.sweep - c * s.taper) nx i ∧
      (leftSection nx s c te y0).y 0 = y0 - s.span := by
  simp only [leftSection, linspace_first _ _ s.ny hny, elem_tan]
  constructor
  · field_simp; ring
  · trivial

/-- chord and trailing edge of the outboard edge: the taper is honoured -/
theorem left_outboard_chord (hnx : 2 ≤ nx) (hny : 2 ≤ s.ny) (hb : s.span ≠ 0) (hc : 0 ≤ c * s.taper) :
    chordOf (leftSection nx s c te y0) nx 0 = c * s.taper ∧
      (leftSection nx s c te y0).x (nx - 1) 0 = c + te - s.span * Real.tan s.sweep - c * s.taper := by
  have h0 := (left_outboard nx s c te y0 hny hb 0).1
  have h1 := (left_outboard nx s c te y0 hny hb (nx - 1)).1
  rw [linspace_first _ _ nx hnx] at h0
  rw [linspace_last _ _ nx (by omega)] at h1
  refine ⟨?_, h1⟩
  unfold chordOf
  rw [h0, h1, elem_abs, show c + te - s.span * Real.tan s.sweep - (c + te - s.span * Real.tan s.sweep - c * s.taper) = c * s.taper by ring,
    abs_of_nonneg hc]

/-- **consecutive left-wing sections share their edge node for node**: the section built next starts exactly where this one ends -/
theorem c14_left_sections_join (hnx : 2 ≤ nx) (hny : 2 ≤ s.ny) (hb : s.span ≠ 0) (hc : 0 ≤ c * s.taper) (s' : Spec ℝ) (hny' : 1 ≤ s'.ny)
    (i : ℕ) :
    let g := leftSection nx s c te y0
    let g' := leftSection nx s' (chordOf g nx 0) (g.x (nx - 1) 0) (g.y 0)
    g'.x i (s'.ny - 1) = g.x i 0 ∧ g'.y (s'.ny - 1) = g.y 0 := by
  intro g g'
  obtain ⟨hch, hte⟩ := left_outboard_chord nx s c te y0 hnx hny hb hc
  obtain ⟨hx, hy⟩ := left_outboard nx s c te y0 hny hb i
  obtain ⟨hx', hy'⟩ := left_inboard nx s' (chordOf g nx 0) (g.x (nx - 1) 0) (g.y 0) hny' i
  refine ⟨?_, hy'⟩
  rw [hx', hx, hch, hte]
  congr 1; ring

/-- the whole left wing: every pair of neighbours in the generated list joins (induction over the section list) -/
theorem c14_left_wing_joins (hnx : 2 ≤ nx) : ∀ (l : List (Spec ℝ)) (c te y0 : ℝ), 0 ≤ c →
    (∀ t ∈ l, 2 ≤ t.ny ∧ t.span ≠ 0 ∧ 0 ≤ t.taper) →
    ∀ k (hk : k + 1 < (leftWing nx l c te y0).length) (i : ℕ),
      ((leftWing nx l c te y0)[k + 1]).x i (((leftWing nx l c te y0)[k + 1]).ny - 1) = ((leftWing nx l c te y0)[k]).x i 0 ∧
      ((leftWing nx l c te y0)[k + 1]).y (((leftWing nx l c te y0)[k + 1]).ny - 1) = ((leftWing nx l c te y0)[k]).y 0 := by
  intro l
  induction l with
  | nil => exact fun _ _ _ _ _ _ hk => absurd hk (Nat.not_lt_zero _)
  | cons s l ih =>
    intro c te y0 hc hl k hk i
    obtain ⟨hny, hb, ht⟩ := hl s List.mem_cons_self
    have hct : 0 ≤ c * s.taper := mul_nonneg hc ht
    cases k with
    | zero =>
      cases l with
      | nil => exact absurd (Nat.lt_of_succ_lt_succ hk) (Nat.not_lt_zero _)
      | cons s' rest =>
        have hny' := (hl s' (List.mem_cons_of_mem _ List.mem_cons_self)).1
        exact c14_left_sections_join nx s c te y0 hnx hny hb hct s' (by omega) i
    | succ k =>
      -- the next section starts with the tapered chord, which is again non-negative
      have hch := (left_outboard_chord nx s c te y0 hnx hny hb hct).1
      exact ih _ _ _ (hch ▸ hct) (fun t ht => hl t (List.mem_cons_of_mem _ ht)) k (Nat.lt_of_succ_lt_succ hk) i

/-! the right wing of a full-span surface (after the repair) -/

theorem right_inboard (hny : 2 ≤ s.ny) (i : ℕ) :
    (rightSection nx s c te y0).x i 0 = linspace (c + te) te nx i ∧ (rightSection nx s c te y0).y 0 = y0 := by
  simp only [rightSection, linspace_first _ _ s.ny hny]
  constructor
  · ring
  · trivial

theorem right_outboard (hny : 1 ≤ s.ny) (hb : s.span ≠ 0) (i : ℕ) :
    (rightSection nx s c te y0).x i (s.ny - 1)
        = linspace (c + te + s.span * Real.tan s.sweep) (c + te + s.span * Real.tan s.sweep - c * s.taper) nx i ∧
      (rightSection nx s c te y0).y (s.ny - 1) = y0 + s.span := by
  simp only [rightSection, linspace_last _ _ s.ny hny, elem_tan]
  constructor
  · field_simp; ring
  · trivial

/-- **consecutive right-wing sections share their edge node for node** -/
theorem c14_right_sections_join (hnx : 2 ≤ nx) (hny : 1 ≤ s.ny) (hb : s.span ≠ 0) (hc : 0 ≤ c * s.taper) (s' : Spec ℝ) (hny' : 2 ≤ s'.ny)
    (i : ℕ) :
    let g := rightSection nx s c te y0
    let g' := rightSection nx s' (chordOf g nx (s.ny - 1)) (g.x (nx - 1) (s.ny - 1)) (g.y (s.ny - 1))
    g'.x i 0 = g.x i (s.ny - 1) ∧ g'.y 0 = g.y (s.ny - 1) := by
  intro g g'
  have h0 := (right_outboard nx s c te y0 hny hb 0).1
  have h1 := (right_outboard nx s c te y0 hny hb (nx - 1)).1
  rw [linspace_first _ _ nx hnx] at h0
  rw [linspace_last _ _ nx (by omega)] at h1
  have hch : chordOf g nx (s.ny - 1) = c * s.taper := by
    show Elem.abs (g.x 0 (s.ny - 1) - g.x (nx - 1) (s.ny - 1)) = _
    rw [h0, h1, elem_abs, show c + te + s.span * Real.tan s.sweep - (c + te + s.span * Real.tan s.sweep - c * s.taper) = c * s.taper by ring,
      abs_of_nonneg hc]
  obtain ⟨hx, hy⟩ := right_outboard nx s c te y0 hny hb i
  obtain ⟨hx', hy'⟩ := right_inboard nx s' (chordOf g nx (s.ny - 1)) (g.x (nx - 1) (s.ny - 1)) (g.y (s.ny - 1)) hny' i
  refine ⟨?_, hy'⟩
  rw [hx', hx, hch, h1]
  congr 1; ring

/-- the defect repaired by F16, second commit: taking the neighbour's trailing edge at its *inboard* edge (column 0) instead of its
outboard edge moves the next section by the neighbour's own sweep and taper offset – the two coincide only for an unswept,
untapered neighbour -/
theorem c14_right_old_reference (hnx : 2 ≤ nx) (hny : 2 ≤ s.ny) (hb : s.span ≠ 0) :
    (rightSection nx s c te y0).x (nx - 1) (s.ny - 1) - (rightSection nx s c te y0).x (nx - 1) 0
      = s.span * Real.tan s.sweep + c * (1 - s.taper) := by
  have h1 := (right_outboard nx s c te y0 (by omega) hb (nx - 1)).1
  have h0 := (right_inboard nx s c te y0 hny (nx - 1)).1
  rw [linspace_last _ _ nx (by omega)] at h1 h0
  rw [h1, h0]; ring

end C14Sections
end OAS
