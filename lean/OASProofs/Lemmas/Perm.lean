import OASProofs.Lemmas.System

/-!
  Re-numbering of the unknowns of the assembled vortex-lattice system when the list of surfaces is permuted:
  for `l ~ l'` there is a bijection `σ` of the global panel indices with `locate l' (σ m) = locate l m`, acting as a
  translation inside every surface block (so that the chordwise differences of `HorseshoeCirculations` are respected).
-/
set_option linter.unusedSectionVars false
set_option linter.unusedSimpArgs false
namespace OAS
namespace VLM
open Finset

/-- the re-numbering relation between two lists of the same surfaces -/
abbrev Reorder (l l' : List (Surf ℝ)) (σ τ : ℕ → ℕ) : Prop := Renum l l' id (fun _ j => j) σ τ

theorem Reorder.mk {l l' : List (Surf ℝ)} {σ τ : ℕ → ℕ} (left : ∀ m, τ (σ m) = m) (right : ∀ m, σ (τ m) = m)
    (loc : ∀ m, locate l' (σ m) = locate l m)
    (row : ∀ m s i j, locate l m = some (s, i, j) → 1 ≤ i → σ (m - (s.ny - 1)) = σ m - (s.ny - 1)) : Reorder l l' σ τ :=
  ⟨left, right, fun m => by rw [loc]; cases locate l m <;> rfl, fun _ _ => rfl, row⟩

theorem Reorder.loc {l l' : List (Surf ℝ)} {σ τ : ℕ → ℕ} (h : Reorder l l' σ τ) (m : ℕ) : locate l' (σ m) = locate l m := by
  rw [Renum.loc h]; cases locate l m <;> rfl

theorem Reorder.refl (l : List (Surf ℝ)) : Reorder l l id id :=
  .mk (fun _ => rfl) (fun _ => rfl) (fun _ => rfl) (fun _ _ _ _ _ _ => rfl)

theorem Reorder.trans {l l' l'' : List (Surf ℝ)} {σ τ σ' τ' : ℕ → ℕ} (h : Reorder l l' σ τ) (h' : Reorder l' l'' σ' τ') :
    Reorder l l'' (σ' ∘ σ) (τ ∘ τ') := by
  refine .mk (fun m => ?_) (fun m => ?_) (fun m => ?_) (fun m s i j hl hi => ?_)
  · simp [h'.left, h.left]
  · simp [h.right, h'.right]
  · simp [h'.loc, h.loc]
  · simp only [Function.comp]
    rw [h.row m s i j hl hi]
    exact h'.row (σ m) s i j (by rw [h.loc]; exact hl) hi

theorem Reorder.cons {l l' : List (Surf ℝ)} {σ τ : ℕ → ℕ} (h : Reorder l l' σ τ) (a : Surf ℝ) :
    Reorder (a :: l) (a :: l')
      (fun m => if m < a.npanels then m else σ (m - a.npanels) + a.npanels)
      (fun m => if m < a.npanels then m else τ (m - a.npanels) + a.npanels) := by
  refine .mk (fun m => ?_) (fun m => ?_) (fun m => ?_) (fun m s i j hl hi => ?_)
  · by_cases hm : m < a.npanels
    · simp [hm]
    · simp [hm, h.left]; omega
  · by_cases hm : m < a.npanels
    · simp [hm]
    · simp [hm, h.right]; omega
  · by_cases hm : m < a.npanels
    · simp [hm, locate]
    · simp [hm, locate, h.loc]
  · simp only [locate] at hl
    by_cases hm : m < a.npanels
    · simp only [hm, if_true] at hl ⊢
      have : m - (s.ny - 1) < a.npanels := by omega
      simp [this]
    · simp only [hm, if_false] at hl ⊢
      have h1 := locate_row_pos l _ s i j hl hi
      have h2 := locate_row_pos l' (σ (m - a.npanels)) s i j (by rw [h.loc]; exact hl) hi
      have h3 := h.row _ s i j hl hi
      have : ¬ (m - (s.ny - 1) < a.npanels) := by omega
      simp only [this, if_false]
      have e : m - (s.ny - 1) - a.npanels = m - a.npanels - (s.ny - 1) := by omega
      rw [e, h3]; omega

theorem Reorder.swap (a b : Surf ℝ) (l : List (Surf ℝ)) :
    Reorder (b :: a :: l) (a :: b :: l)
      (fun m => if m < b.npanels then m + a.npanels else if m < b.npanels + a.npanels then m - b.npanels else m)
      (fun m => if m < a.npanels then m + b.npanels else if m < a.npanels + b.npanels then m - a.npanels else m) := by
  refine .mk (fun m => ?_) (fun m => ?_) (fun m => ?_) (fun m s i j hl hi => ?_)
  · split_ifs <;> omega
  · split_ifs <;> omega
  · simp only [locate]
    by_cases h1 : m < b.npanels
    · have : ¬ (m + a.npanels < a.npanels) := by omega
      simp [h1, this]
    · by_cases h2 : m < b.npanels + a.npanels
      · have h3 : m - b.npanels < a.npanels := by omega
        simp [h1, h2, h3]
      · have h3 : ¬ (m < a.npanels) := by omega
        have h4 : ¬ (m - a.npanels < b.npanels) := by omega
        have h5 : ¬ (m - b.npanels < a.npanels) := by omega
        have e : m - a.npanels - b.npanels = m - b.npanels - a.npanels := by omega
        simp [h1, h2, h3, h4, h5, e]
  · simp only [locate] at hl
    by_cases h1 : m < b.npanels
    · simp only [h1, if_true] at hl ⊢
      simp only [Option.some.injEq, Prod.mk.injEq] at hl
      obtain ⟨rfl, rfl, rfl⟩ := hl
      have hge : b.ny - 1 ≤ m := by
        by_contra hc
        have : m / (b.ny - 1) = 0 := Nat.div_eq_of_lt (by omega)
        omega
      have : m - (b.ny - 1) < b.npanels := by omega
      simp only [this, if_true]; omega
    · simp only [h1, if_false] at hl ⊢
      by_cases h2 : m - b.npanels < a.npanels
      · simp only [h2, if_true, Option.some.injEq, Prod.mk.injEq] at hl
        obtain ⟨rfl, rfl, rfl⟩ := hl
        have hge : a.ny - 1 ≤ m - b.npanels := by
          by_contra hc
          have : (m - b.npanels) / (a.ny - 1) = 0 := Nat.div_eq_of_lt (by omega)
          omega
        have h3 : m < b.npanels + a.npanels := by omega
        have h4 : ¬ (m - (a.ny - 1) < b.npanels) := by omega
        have h5 : m - (a.ny - 1) < b.npanels + a.npanels := by omega
        simp only [h3, h4, h5, if_true, if_false]; omega
      · simp only [h2, if_false] at hl
        have hge := locate_row_pos l _ s i j hl hi
        have h3 : ¬ (m < b.npanels + a.npanels) := by omega
        have h4 : ¬ (m - (s.ny - 1) < b.npanels) := by omega
        have h5 : ¬ (m - (s.ny - 1) < b.npanels + a.npanels) := by omega
        simp only [h3, h4, h5, if_false]

/-- **every permutation of the surface list is a re-numbering of the unknowns** -/
theorem renum_of_perm {l l' : List (Surf ℝ)} (hp : l.Perm l') : ∃ σ τ, Reorder l l' σ τ := by
  induction hp with
  | nil => exact ⟨id, id, Reorder.refl _⟩
  | cons a _ ih => obtain ⟨σ, τ, h⟩ := ih; exact ⟨_, _, h.cons a⟩
  | swap a b l => exact ⟨_, _, Reorder.swap a b l⟩
  | trans _ _ ih1 ih2 =>
    obtain ⟨σ, τ, h⟩ := ih1; obtain ⟨σ', τ', h'⟩ := ih2
    exact ⟨_, _, h.trans h'⟩

/-! ### consequences for the assembled system -/

/-- **same matrix, same right-hand side, same panel forces in the other numbering** (nothing is moved) -/
theorem Reorder.system {l l' : List (Surf ℝ)} {σ τ : ℕ → ℕ} (h : Reorder l l' σ τ) (f : Flow ℝ) :
    (∀ m n, aic l' f (σ m) (σ n) = aic l f m n) ∧ (∀ m, rhs l' f (σ m) = rhs l f m) ∧
    (∀ gamma m, panelForce l' f (fun k => gamma (τ k)) (σ m) = panelForce l f gamma m) := by
  have hinf : ∀ p n, influence l' f p (σ n) = influence l f p n := fun p n => by simp only [influence, h.loc]
  refine ⟨Renum.aic_eq h (A := fun v => v) (fun _ _ _ _ _ => rfl) (fun _ _ _ _ _ => rfl) (fun _ _ => rfl) hinf,
    Renum.rhs_eq h (A := fun v => v) (fun _ _ _ _ _ => rfl) (fun _ _ _ _ _ => rfl) (fun _ _ => rfl) fun _ => rfl,
    fun gamma m => ?_⟩
  rw [panelForce_eq_with, panelForce_eq_with]
  exact Renum.panelForceWith_eq h (A := fun v => v) isOrtho_id (one_mul 1) rfl (fun _ _ _ _ _ => rfl)
    (fun _ _ _ _ _ => (V3.one_smul _).symm) hinf
    (Renum.onsetAt_eq h (f := f) (f' := f) (R := fun v => v) (A := fun v => v) (fun _ _ _ _ _ => rfl) rfl fun _ => rfl) gamma m

end VLM
end OAS
