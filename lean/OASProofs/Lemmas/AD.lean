import OASProofs.Lemmas.Basic
import OASProofs.Lemmas.Real
import Mathlib.Analysis.SpecialFunctions.Pow.Deriv
import Mathlib.Analysis.SpecialFunctions.Sqrt
import Mathlib.Analysis.SpecialFunctions.Trigonometric.ArctanDeriv
import Mathlib.Analysis.SpecialFunctions.Trigonometric.InverseDeriv
import Mathlib.Analysis.Calculus.Deriv.Abs

/-!
  **Soundness of the forward-mode dual numbers of `OASModel/Dual.lean` over ℝ.**

  `Tracks a f t` : the dual number `a` carries the value and the derivative of `f` at `t`.  Every primitive of the
  model's scalar vocabulary (`+ − * / −`, literals, `sqrt sin cos tan exp log rpow abs atan acos`, `sumTo`) maps
  tracked arguments to a tracked result, under the side condition that makes the real function differentiable there.
  Hence the `Dual` instantiation of any model definition built from these primitives computes the exact derivative of
  its `ℝ` instantiation — which is what the correspondence check compares the code's analytic partials with.
-/
set_option linter.unusedSectionVars false
namespace OAS
namespace AD

/-- `a` is the value and derivative of `f` at `t` -/
def Tracks (a : Dual ℝ) (f : ℝ → ℝ) (t : ℝ) : Prop := a.v = f t ∧ HasDerivAt f a.d t

variable {a b : Dual ℝ} {f g : ℝ → ℝ} {t : ℝ}

theorem Tracks.const (c : ℝ) : Tracks (⟨c, 0⟩ : Dual ℝ) (fun _ => c) t := ⟨rfl, hasDerivAt_const t c⟩

/-- the seed: the independent variable itself -/
theorem Tracks.var : Tracks (⟨t, 1⟩ : Dual ℝ) (fun x => x) t := ⟨rfl, hasDerivAt_id t⟩

theorem Tracks.natCast (n : ℕ) : Tracks ((n : ℕ) : Dual ℝ) (fun _ => (n : ℝ)) t := ⟨rfl, hasDerivAt_const t _⟩
theorem Tracks.zero : Tracks (0 : Dual ℝ) (fun _ => (0 : ℝ)) t := ⟨rfl, hasDerivAt_const t _⟩
theorem Tracks.one : Tracks (1 : Dual ℝ) (fun _ => (1 : ℝ)) t := ⟨rfl, hasDerivAt_const t _⟩
theorem Tracks.pi : Tracks (Elem.pi : Dual ℝ) (fun _ => (Elem.pi : ℝ)) t := ⟨rfl, hasDerivAt_const t _⟩

theorem Tracks.add (ha : Tracks a f t) (hb : Tracks b g t) : Tracks (a + b) (fun x => f x + g x) t :=
  ⟨by show a.v + b.v = _; rw [ha.1, hb.1], ha.2.add hb.2⟩

theorem Tracks.sub (ha : Tracks a f t) (hb : Tracks b g t) : Tracks (a - b) (fun x => f x - g x) t :=
  ⟨by show a.v - b.v = _; rw [ha.1, hb.1], ha.2.sub hb.2⟩

theorem Tracks.neg (ha : Tracks a f t) : Tracks (-a) (fun x => -f x) t :=
  ⟨by show -a.v = _; rw [ha.1], ha.2.neg⟩

theorem Tracks.mul (ha : Tracks a f t) (hb : Tracks b g t) : Tracks (a * b) (fun x => f x * g x) t := by
  refine ⟨by show a.v * b.v = _; rw [ha.1, hb.1], ?_⟩
  have := ha.2.mul hb.2
  show HasDerivAt _ (a.d * b.v + a.v * b.d) t
  rw [ha.1, hb.1]; exact this

theorem Tracks.div (ha : Tracks a f t) (hb : Tracks b g t) (h0' : g t ≠ 0) : Tracks (a / b) (fun x => f x / g x) t := by
  refine ⟨by show a.v / b.v = _; rw [ha.1, hb.1], ?_⟩
  have := ha.2.div hb.2 h0'
  show HasDerivAt _ ((a.d * b.v - a.v * b.d) / (b.v * b.v)) t
  rw [ha.1, hb.1]
  exact this.congr_deriv (by rw [pow_two])

theorem Tracks.dec (n m : ℕ) : Tracks (OAS.dec n m : Dual ℝ) (fun _ => (OAS.dec n m : ℝ)) t := by
  refine ⟨rfl, ?_⟩
  show HasDerivAt _ (((0 : ℝ) * (m : ℝ) - (n : ℝ) * 0) / ((m : ℝ) * (m : ℝ))) t
  simpa using hasDerivAt_const t (OAS.dec n m : ℝ)

theorem Tracks.sqrt (ha : Tracks a f t) (h0 : 0 < f t) : Tracks (Elem.sqrt a) (fun x => Elem.sqrt (f x)) t := by
  show Tracks _ (fun x => Real.sqrt (f x)) t
  refine ⟨by show Real.sqrt a.v = _; rw [ha.1], ?_⟩
  have h0' : f t ≠ 0 := ne_of_gt h0
  have := ha.2.sqrt h0'
  show HasDerivAt _ (a.d / (((2 : ℕ) : ℝ) * Real.sqrt a.v)) t
  rw [ha.1]; push_cast; exact this

theorem Tracks.sin (ha : Tracks a f t) : Tracks (Elem.sin a) (fun x => Elem.sin (f x)) t := by
  show Tracks _ (fun x => Real.sin (f x)) t
  refine ⟨by show Real.sin a.v = _; rw [ha.1], ?_⟩
  show HasDerivAt _ (Real.cos a.v * a.d) t
  rw [ha.1]; exact ha.2.sin

theorem Tracks.cos (ha : Tracks a f t) : Tracks (Elem.cos a) (fun x => Elem.cos (f x)) t := by
  show Tracks _ (fun x => Real.cos (f x)) t
  refine ⟨by show Real.cos a.v = _; rw [ha.1], ?_⟩
  show HasDerivAt _ (-(Real.sin a.v) * a.d) t
  rw [ha.1]; exact ha.2.cos

theorem Tracks.tan (ha : Tracks a f t) (h0' : Real.cos (f t) ≠ 0) : Tracks (Elem.tan a) (fun x => Elem.tan (f x)) t := by
  show Tracks _ (fun x => Real.tan (f x)) t
  refine ⟨by show Real.tan a.v = _; rw [ha.1], ?_⟩
  show HasDerivAt _ (a.d / (Real.cos a.v * Real.cos a.v)) t
  have h := (Real.hasDerivAt_tan h0').comp t ha.2
  rw [ha.1]
  exact h.congr_deriv (by rw [pow_two]; field_simp)

theorem Tracks.exp (ha : Tracks a f t) : Tracks (Elem.exp a) (fun x => Elem.exp (f x)) t := by
  show Tracks _ (fun x => Real.exp (f x)) t
  refine ⟨by show Real.exp a.v = _; rw [ha.1], ?_⟩
  show HasDerivAt _ (Real.exp a.v * a.d) t
  rw [ha.1]; exact ha.2.exp

theorem Tracks.log (ha : Tracks a f t) (h0 : f t ≠ 0) : Tracks (Elem.log a) (fun x => Elem.log (f x)) t := by
  show Tracks _ (fun x => Real.log (f x)) t
  refine ⟨by show Real.log a.v = _; rw [ha.1], ?_⟩
  show HasDerivAt _ (a.d / a.v) t
  rw [ha.1]; exact ha.2.log h0

theorem Tracks.atan (ha : Tracks a f t) : Tracks (Elem.atan a) (fun x => Elem.atan (f x)) t := by
  show Tracks _ (fun x => Real.arctan (f x)) t
  refine ⟨by show Real.arctan a.v = _; rw [ha.1], ?_⟩
  show HasDerivAt _ (a.d / (1 + a.v * a.v)) t
  rw [ha.1]
  have := ha.2.arctan
  exact this.congr_deriv (by rw [pow_two]; ring)

theorem Tracks.abs (ha : Tracks a f t) (h0' : f t ≠ 0) : Tracks (Elem.abs a) (fun x => Elem.abs (f x)) t := by
  show Tracks _ (fun x => |f x|) t
  refine ⟨by show |a.v| = _; rw [ha.1], ?_⟩
  show HasDerivAt _ (if a.v < 0 then -a.d else a.d) t
  have h0 : a.v ≠ 0 := by rw [ha.1]; exact h0'
  rcases lt_or_gt_of_ne h0 with h | h
  · rw [if_pos h]
    have hf : f t < 0 := by rw [← ha.1]; exact h
    have hev : (fun x => |f x|) =ᶠ[nhds t] (fun x => -f x) := by
      filter_upwards [ha.2.continuousAt.eventually (gt_mem_nhds hf)] with x hx
      exact abs_of_neg hx
    exact ha.2.neg.congr_of_eventuallyEq hev
  · rw [if_neg (not_lt.mpr (le_of_lt h))]
    have hf : 0 < f t := by rw [← ha.1]; exact h
    have hev : (fun x => |f x|) =ᶠ[nhds t] (fun x => f x) := by
      filter_upwards [ha.2.continuousAt.eventually (lt_mem_nhds hf)] with x hx
      exact abs_of_pos hx
    exact ha.2.congr_of_eventuallyEq hev

/-- power with a constant exponent (`x ** 2.58`, `M ** 0.18`, …), positive base -/
theorem Tracks.rpow_const (ha : Tracks a f t) (p : ℝ) (h0 : 0 < f t) :
    Tracks (Elem.rpow a (⟨p, 0⟩ : Dual ℝ)) (fun x => f x ^ p) t := by
  refine ⟨by show a.v ^ p = _; rw [ha.1], ?_⟩
  show HasDerivAt _ (p * a.v ^ (p - 1) * a.d + (if ((0 : ℝ) == 0) = true then 0 else a.v ^ p * Real.log a.v * 0)) t
  simp only [beq_self_eq_true, if_true, add_zero]
  rw [ha.1]
  have := ha.2.rpow_const (p := p) (Or.inl (ne_of_gt h0))
  exact this.congr_deriv (by ring)

/-- general power, positive base -/
theorem Tracks.rpow (ha : Tracks a f t) (hb : Tracks b g t) (h0 : 0 < f t) :
    Tracks (Elem.rpow a b) (fun x => Elem.rpow (f x) (g x)) t := by
  show Tracks _ (fun x => f x ^ g x) t
  refine ⟨by show a.v ^ b.v = _; rw [ha.1, hb.1], ?_⟩
  show HasDerivAt _ (b.v * a.v ^ (b.v - 1) * a.d + (if (b.d == 0) = true then 0 else a.v ^ b.v * Real.log a.v * b.d)) t
  have hd : (if (b.d == 0) = true then 0 else a.v ^ b.v * Real.log a.v * b.d) = a.v ^ b.v * Real.log a.v * b.d := by
    split_ifs with h
    · rw [beq_iff_eq] at h; rw [h]; ring
    · rfl
  rw [hd, ha.1, hb.1]
  have := ha.2.rpow hb.2 h0
  exact this.congr_deriv (by ring)

theorem Tracks.acos (ha : Tracks a f t) (h1 : -1 < f t) (h2 : f t < 1) :
    Tracks (Elem.acos a) (fun x => Elem.acos (f x)) t := by
  show Tracks _ (fun x => Real.arccos (f x)) t
  refine ⟨by show Real.arccos a.v = _; rw [ha.1], ?_⟩
  show HasDerivAt _ (-a.d / Real.sqrt (1 - a.v * a.v)) t
  rw [ha.1]
  have h := (Real.hasDerivAt_arccos (ne_of_gt h1) (ne_of_lt h2)).comp t ha.2
  exact h.congr_deriv (by rw [pow_two]; ring)

/-- sums of tracked terms -/
theorem Tracks.sumTo (n : ℕ) (A : ℕ → Dual ℝ) (F : ℕ → ℝ → ℝ) (h : ∀ k, k < n → Tracks (A k) (F k) t) :
    Tracks (OAS.sumTo n A) (fun x => OAS.sumTo n (fun k => F k x)) t := by
  induction n with
  | zero => exact Tracks.zero
  | succ n ih =>
    exact (ih (fun k hk => h k (by omega))).add (h n (by omega))

/-- a branch that is decided by strict inequalities between *values* is locally constant; for branches on
constants (options) the two instantiations take the same branch by definition -/
theorem Tracks.congr (ha : Tracks a f t) (hfg : ∀ x, f x = g x) : Tracks a g t := by
  have : f = g := funext hfg
  rw [← this]; exact ha


theorem Dual.lt_iff (a b : Dual ℝ) : a < b ↔ a.v < b.v := Iff.rfl
@[simp] theorem Dual.zero_v : (0 : Dual ℝ).v = 0 := rfl
@[simp] theorem Dual.one_v : (1 : Dual ℝ).v = 1 := rfl
@[simp] theorem Dual.mk_v (x y : ℝ) : (⟨x, y⟩ : Dual ℝ).v = x := rfl

/-- index-decided branches (`out[:-1]`, `out[1:]` slices) -/
theorem Tracks.ite (c : Prop) [Decidable c] (ha : Tracks a f t) (hb : Tracks b g t) :
    Tracks (if c then a else b) (fun x => if c then f x else g x) t := by
  split <;> assumption

/-- a branch decided by a strict inequality between *values* is locally constant: taken … -/
theorem Tracks.ite_lt_pos {c d : Dual ℝ} {F G : ℝ → ℝ} (ha : Tracks a f t) (hb : Tracks b g t) (hlt : f t < g t)
    (hc : Tracks c F t) : Tracks (if a < b then c else d) (fun x => if f x < g x then F x else G x) t := by
  have hv : a < b := by rw [Dual.lt_iff, ha.1, hb.1]; exact hlt
  rw [if_pos hv]
  have hev : (fun x => if f x < g x then F x else G x) =ᶠ[nhds t] F := by
    have := (ha.2.continuousAt.prodMk hb.2.continuousAt).eventually
      (isOpen_lt continuous_fst continuous_snd |>.mem_nhds (show ((f t, g t) : ℝ × ℝ) ∈ {p : ℝ × ℝ | p.1 < p.2} from hlt))
    filter_upwards [this] with x hx
    exact if_pos hx
  exact ⟨by rw [hc.1]; exact (if_pos hlt).symm, hc.2.congr_of_eventuallyEq hev⟩

/-- … or not taken -/
theorem Tracks.ite_lt_neg {c d : Dual ℝ} {F G : ℝ → ℝ} (ha : Tracks a f t) (hb : Tracks b g t) (hlt : g t < f t)
    (hd : Tracks d G t) : Tracks (if a < b then c else d) (fun x => if f x < g x then F x else G x) t := by
  have hv : ¬ a < b := by rw [Dual.lt_iff, ha.1, hb.1]; exact not_lt.mpr (le_of_lt hlt)
  rw [if_neg hv]
  have hev : (fun x => if f x < g x then F x else G x) =ᶠ[nhds t] G := by
    have := (hb.2.continuousAt.prodMk ha.2.continuousAt).eventually
      (isOpen_lt continuous_fst continuous_snd |>.mem_nhds (show ((g t, f t) : ℝ × ℝ) ∈ {p : ℝ × ℝ | p.1 < p.2} from hlt))
    filter_upwards [this] with x hx
    exact if_neg (not_lt.mpr (le_of_lt hx))
  exact ⟨by rw [hd.1]; exact (if_neg (not_lt.mpr (le_of_lt hlt))).symm, hd.2.congr_of_eventuallyEq hev⟩

/-! ### vectors -/

/-- componentwise tracking of a 3-vector -/
def TracksV (a : V3 (Dual ℝ)) (f : ℝ → V3 ℝ) (t : ℝ) : Prop :=
  Tracks a.x (fun s => (f s).x) t ∧ Tracks a.y (fun s => (f s).y) t ∧ Tracks a.z (fun s => (f s).z) t

variable {u w : V3 (Dual ℝ)} {p q : ℝ → V3 ℝ}

theorem TracksV.x (h : TracksV u p t) : Tracks u.x (fun s => (p s).x) t := h.1
theorem TracksV.y (h : TracksV u p t) : Tracks u.y (fun s => (p s).y) t := h.2.1
theorem TracksV.z (h : TracksV u p t) : Tracks u.z (fun s => (p s).z) t := h.2.2

theorem TracksV.mk {x y z : Dual ℝ} {fx fy fz : ℝ → ℝ} (hx : Tracks x fx t) (hy : Tracks y fy t) (hz : Tracks z fz t) :
    TracksV ⟨x, y, z⟩ (fun s => ⟨fx s, fy s, fz s⟩) t := ⟨hx, hy, hz⟩

theorem TracksV.zero : TracksV (0 : V3 (Dual ℝ)) (fun _ => (0 : V3 ℝ)) t := ⟨Tracks.zero, Tracks.zero, Tracks.zero⟩

theorem TracksV.add (hu : TracksV u p t) (hw : TracksV w q t) : TracksV (u + w) (fun s => p s + q s) t :=
  ⟨hu.x.add hw.x, hu.y.add hw.y, hu.z.add hw.z⟩

theorem TracksV.sub (hu : TracksV u p t) (hw : TracksV w q t) : TracksV (u - w) (fun s => p s - q s) t :=
  ⟨hu.x.sub hw.x, hu.y.sub hw.y, hu.z.sub hw.z⟩

theorem TracksV.neg (hu : TracksV u p t) : TracksV (-u) (fun s => -p s) t := ⟨hu.x.neg, hu.y.neg, hu.z.neg⟩

theorem TracksV.smul (ha : Tracks a f t) (hu : TracksV u p t) : TracksV (V3.smul a u) (fun s => V3.smul (f s) (p s)) t :=
  ⟨ha.mul hu.x, ha.mul hu.y, ha.mul hu.z⟩

theorem TracksV.cross (hu : TracksV u p t) (hw : TracksV w q t) :
    TracksV (V3.cross u w) (fun s => V3.cross (p s) (q s)) t :=
  ⟨(hu.y.mul hw.z).sub (hu.z.mul hw.y), (hu.z.mul hw.x).sub (hu.x.mul hw.z), (hu.x.mul hw.y).sub (hu.y.mul hw.x)⟩

theorem Tracks.dot (hu : TracksV u p t) (hw : TracksV w q t) : Tracks (V3.dot u w) (fun s => V3.dot (p s) (q s)) t :=
  ((hu.x.mul hw.x).add (hu.y.mul hw.y)).add (hu.z.mul hw.z)

theorem Tracks.normSq (hu : TracksV u p t) : Tracks (V3.normSq u) (fun s => V3.normSq (p s)) t :=
  ((hu.x.mul hu.x).add (hu.y.mul hu.y)).add (hu.z.mul hu.z)

theorem Tracks.norm (hu : TracksV u p t) (h0 : 0 < V3.normSq (p t)) : Tracks (V3.norm u) (fun s => V3.norm (p s)) t :=
  (Tracks.normSq hu).sqrt h0

theorem TracksV.ite (c : Prop) [Decidable c] (hu : TracksV u p t) (hw : TracksV w q t) :
    TracksV (if c then u else w) (fun s => if c then p s else q s) t := by
  split <;> assumption

/-- a vector-valued branch decided by a strict inequality between values, taken (`Tracks.ite_lt_pos` componentwise) -/
theorem TracksV.ite_lt_pos {F G : ℝ → V3 ℝ} (ha : Tracks a f t) (hb : Tracks b g t) (hlt : f t < g t) (hu : TracksV u F t) :
    TracksV (if a < b then u else w) (fun s => if f s < g s then F s else G s) t := by
  simp only [TracksV, V3.ite_x, V3.ite_y, V3.ite_z]
  exact ⟨Tracks.ite_lt_pos ha hb hlt hu.x, Tracks.ite_lt_pos ha hb hlt hu.y, Tracks.ite_lt_pos ha hb hlt hu.z⟩

theorem TracksV.sumTo (n : ℕ) (A : ℕ → V3 (Dual ℝ)) (F : ℕ → ℝ → V3 ℝ) (h : ∀ k, k < n → TracksV (A k) (F k) t) :
    TracksV (V3.sumTo n A) (fun s => V3.sumTo n (fun k => F k s)) t :=
  ⟨Tracks.sumTo n _ _ fun k hk => (h k hk).x, Tracks.sumTo n _ _ fun k hk => (h k hk).y,
    Tracks.sumTo n _ _ fun k hk => (h k hk).z⟩

theorem TracksV.mulVec {m : M3 (Dual ℝ)} {fm : ℝ → M3 ℝ} (h0 : TracksV m.r0 (fun s => (fm s).r0) t)
    (h1 : TracksV m.r1 (fun s => (fm s).r1) t) (h2 : TracksV m.r2 (fun s => (fm s).r2) t) (hu : TracksV u p t) :
    TracksV (M3.mulVec m u) (fun s => M3.mulVec (fm s) (p s)) t :=
  ⟨((h0.x.mul hu.x).add (h0.y.mul hu.y)).add (h0.z.mul hu.z), ((h1.x.mul hu.x).add (h1.y.mul hu.y)).add (h1.z.mul hu.z),
    ((h2.x.mul hu.x).add (h2.y.mul hu.y)).add (h2.z.mul hu.z)⟩

section
variable {K : Type} [Zero K] [Add K]
theorem V3.sumTo_x' (n : ℕ) (f : ℕ → V3 K) : (V3.sumTo n f).x = OAS.sumTo n (fun i => (f i).x) := rfl
theorem V3.sumTo_y' (n : ℕ) (f : ℕ → V3 K) : (V3.sumTo n f).y = OAS.sumTo n (fun i => (f i).y) := rfl
theorem V3.sumTo_z' (n : ℕ) (f : ℕ → V3 K) : (V3.sumTo n f).z = OAS.sumTo n (fun i => (f i).z) := rfl
end

open Lean Elab Tactic Meta in
/-- close the goal by applying a hypothesis (possibly universally quantified over indices) without leaving subgoals -/
elab "track_hyp" : tactic => withMainContext do
  let g ← getMainGoal
  let lctx ← getLCtx
  for h in lctx do
    if h.isImplementationDetail then continue
    let s ← saveState
    try
      let gs ← g.apply h.toExpr
      if gs.isEmpty then
        replaceMainGoal []
        return
      else
        s.restore
    catch _ => s.restore
  throwError "track_hyp: no hypothesis applies"

/-- the rules for a vector goal other than the constructor rule `TracksV.mk`, which (by eta) fits every vector -/
macro "trackV_core" : tactic => `(tactic| first
  | track_hyp
  | apply TracksV.add
  | apply TracksV.sub
  | apply TracksV.smul
  | apply TracksV.cross
  | apply TracksV.neg
  | apply TracksV.mulVec
  | apply TracksV.ite
  | (refine TracksV.sumTo _ _ _ ?_; intro _ _)
  | exact TracksV.zero)

/-- One step of the syntax-directed derivation: in `Tracks A (fun s => F s) t` (or `TracksV`) the model term `A` at `Dual ℝ` and
the same term `F s` at `ℝ` have the same head symbol, which selects the rule; hypotheses close the leaves.  Rules are tried at
reducible transparency, so that one that does not fit fails at once instead of unfolding both terms; a goal is first told apart as
scalar or vector (anything else is a side condition: closed if it is a hypothesis, left alone otherwise), and the commonest rules come first, because a step costs as
many failed attempts as there are rules before the one that fits.  A component `u.x` is traced back to the vector `u` only if a
vector rule other than the constructor rule then applies to `u`. -/
macro "track_step" : tactic => `(tactic| with_reducible first
  | (refine (?_ : Tracks _ _ _)
     first
     | apply Tracks.mul
     | apply Tracks.add
     | apply Tracks.sub
     | apply Tracks.div
     | (apply TracksV.x; trackV_core)
     | (apply TracksV.y; trackV_core)
     | (apply TracksV.z; trackV_core)
     | track_hyp
     | exact Tracks.dec _ _
     | exact Tracks.natCast _
     | exact Tracks.const _
     | exact Tracks.zero
     | exact Tracks.one
     | apply Tracks.neg
     | (refine Tracks.sumTo _ _ _ ?_; intro _ _)
     | apply Tracks.ite
     | apply Tracks.dot
     | apply Tracks.norm
     | apply Tracks.sqrt
     | apply Tracks.sin
     | apply Tracks.cos
     | apply Tracks.normSq
     | apply Tracks.exp
     | apply Tracks.log
     | apply Tracks.rpow
     | apply Tracks.tan
     | apply Tracks.atan
     | apply Tracks.abs
     | exact Tracks.pi
     | exact Tracks.var)
  | (refine (?_ : TracksV _ _ _)
     first
     | trackV_core
     | apply TracksV.mk)
  | with_reducible_and_instances track_hyp)

/-- derive `Tracks` / `TracksV` for a straight-line model term, leaving the differentiability side conditions that are not
literally among the hypotheses -/
macro "track" : tactic => `(tactic| repeat' track_step)

end AD
end OAS
