import OASProofs.Lemmas.Basic
import OASProofs.Lemmas.Real

/-!
  The vortex-lattice kernel of `OASModel/VLM.lean` over ℝ under orthogonal maps.  Every velocity the kernel computes is a scalar,
  built from norms and dot products, times a cross product; so a map that preserves dot products and sends cross products to `σ`
  times their image (`σ = 1`: rotation, `σ = −1`: reflection) sends the velocity induced by a segment, a ring, a lattice to `σ`
  times its image – on both sides of the `|den| > tol` branch of `_compute_finite_vortex`.  Reversing the spanwise order of the
  columns of a lattice reverses the sense of every ring.  The `y`-mirror with reversed columns (`mirrorLattice`) combines the two.
-/
set_option linter.unusedSectionVars false
set_option linter.unusedSimpArgs false
namespace OAS

/-- an orthogonal map of ℝ³, given by the properties the proofs use; `σ` is its determinant -/
structure IsOrtho (σ : ℝ) (R : V3 ℝ → V3 ℝ) : Prop where
  add : ∀ a b, R (a + b) = R a + R b
  smul : ∀ (c : ℝ) a, R (V3.smul c a) = V3.smul c (R a)
  dot : ∀ a b, V3.dot (R a) (R b) = V3.dot a b
  cross : ∀ a b, V3.cross (R a) (R b) = V3.smul σ (R (V3.cross a b))

namespace IsOrtho
variable {σ : ℝ} {R : V3 ℝ → V3 ℝ} (h : IsOrtho σ R)
include h

theorem zero : R 0 = 0 := by simpa using h.smul 0 0

theorem neg (a : V3 ℝ) : R (-a) = -R a := by simpa using h.smul (-1) a

theorem sub (a b : V3 ℝ) : R (a - b) = R a - R b := by rw [sub_eq_add_neg, h.add, h.neg, ← sub_eq_add_neg]

theorem norm (a : V3 ℝ) : V3.norm (R a) = V3.norm a := congrArg Real.sqrt (h.dot a a)

theorem sum (n : ℕ) (g : ℕ → V3 ℝ) : V3.sumTo n (fun k => R (g k)) = R (V3.sumTo n g) := by
  induction n with
  | zero => exact h.zero.symm
  | succ n ih => rw [V3.sumTo_succ, V3.sumTo_succ, ih, h.add]

end IsOrtho

theorem isOrtho_id : IsOrtho 1 (fun v => v) :=
  ⟨fun _ _ => rfl, fun _ _ => rfl, fun _ _ => rfl, fun _ _ => (V3.one_smul _).symm⟩

namespace VLM

/-- mirror image about the `x–z` plane -/
abbrev S := @mirrorY ℝ _

@[simp] theorem mirrorY_x (v : V3 ℝ) : (mirrorY v).x = v.x := rfl
@[simp] theorem mirrorY_y (v : V3 ℝ) : (mirrorY v).y = -v.y := rfl
@[simp] theorem mirrorY_z (v : V3 ℝ) : (mirrorY v).z = v.z := rfl

theorem mirrorY_isOrtho : IsOrtho (-1) (mirrorY : V3 ℝ → V3 ℝ) := by
  refine ⟨fun a b => ?_, fun c a => ?_, fun a b => ?_, fun a b => ?_⟩ <;> (try ext) <;> simp [V3.dot] <;> ring

theorem mirrorY_sub (a b : V3 ℝ) : mirrorY (a - b) = mirrorY a - mirrorY b := mirrorY_isOrtho.sub a b
theorem mirrorY_add (a b : V3 ℝ) : mirrorY (a + b) = mirrorY a + mirrorY b := mirrorY_isOrtho.add a b
theorem mirrorY_neg (a : V3 ℝ) : mirrorY (-a) = -mirrorY a := mirrorY_isOrtho.neg a
theorem mirrorY_zero : mirrorY (0 : V3 ℝ) = 0 := mirrorY_isOrtho.zero
theorem mirrorY_smul (c : ℝ) (v : V3 ℝ) : mirrorY (V3.smul c v) = V3.smul c (mirrorY v) := mirrorY_isOrtho.smul c v
theorem norm_mirrorY (a : V3 ℝ) : V3.norm (mirrorY a) = V3.norm a := mirrorY_isOrtho.norm a
theorem dot_mirrorY (a b : V3 ℝ) : V3.dot (mirrorY a) (mirrorY b) = V3.dot a b := mirrorY_isOrtho.dot a b
theorem mirrorY_mirrorY (a : V3 ℝ) : mirrorY (mirrorY a) = a := by ext <;> simp

theorem V3.add_comm' (a b : V3 ℝ) : a + b = b + a := add_comm a b
theorem V3.add_assoc' (a b c : V3 ℝ) : a + b + c = a + (b + c) := add_assoc a b c

/-! ### the two kernels as a scalar times a cross product -/

/-- the denominator `|r1||r2| + r1·r2` of the finite-vortex kernel -/
noncomputable def fvDen (r1 r2 : V3 ℝ) : ℝ := V3.norm r1 * V3.norm r2 + V3.dot r1 r2

theorem fvDen_comm (a b : V3 ℝ) : fvDen a b = fvDen b a := by
  simp [fvDen, V3.dot]; ring

theorem tol_pos : (0 : ℝ) < tol := by simp only [tol, dec_def]; positivity

theorem finiteVortex_eq (r1 r2 : V3 ℝ) :
    finiteVortex r1 r2 = if tol < |fvDen r1 r2| then
      V3.smul ((1 / V3.norm r1 + 1 / V3.norm r2) / (fvDen r1 r2 * ((4 : ℕ) : ℝ) * Real.pi)) (V3.cross r1 r2) else 0 := by
  unfold finiteVortex fvDen
  simp only [elem_abs, elem_pi]
  split_ifs
  · ext <;> simp only [V3.smul_x, V3.smul_y, V3.smul_z] <;> ring
  · rfl

theorem fvDen_ne_zero {r1 r2 : V3 ℝ} (h : tol < |fvDen r1 r2|) : fvDen r1 r2 ≠ 0 := abs_pos.mp (tol_pos.trans h)

theorem finiteVortex_of_tol {r1 r2 : V3 ℝ} (h : tol < |fvDen r1 r2|) :
    finiteVortex r1 r2 = V3.smul ((1 / V3.norm r1 + 1 / V3.norm r2) / (fvDen r1 r2 * 4 * Real.pi)) (V3.cross r1 r2) := by
  rw [finiteVortex_eq, if_pos h, Nat.cast_ofNat]

theorem semiInfVortex_eq (u r : V3 ℝ) :
    semiInfVortex u r
      = V3.smul (1 / (V3.norm r * (V3.norm r - V3.dot u r)) / ((4 : ℕ) : ℝ) / Real.pi) (V3.cross u r) := by
  unfold semiInfVortex
  ext <;> simp only [V3.smul_x, V3.smul_y, V3.smul_z, elem_pi] <;> ring

/-- **antisymmetry**: reversing a segment reverses its induced velocity -/
theorem finiteVortex_antisymm (r1 r2 : V3 ℝ) : finiteVortex r2 r1 = -finiteVortex r1 r2 := by
  rw [finiteVortex_eq, finiteVortex_eq, fvDen_comm r2 r1, V3.cross_comm r2 r1, add_comm (1 / V3.norm r2)]
  split_ifs
  · exact V3.smul_neg _ _
  · exact neg_zero.symm

section ortho
variable {σ : ℝ} {R : V3 ℝ → V3 ℝ} (h : IsOrtho σ R)
include h

theorem fvDen_ortho (a b : V3 ℝ) : fvDen (R a) (R b) = fvDen a b := by
  simp only [fvDen, h.norm, h.dot]

theorem finiteVortex_ortho (r1 r2 : V3 ℝ) : finiteVortex (R r1) (R r2) = V3.smul σ (R (finiteVortex r1 r2)) := by
  rw [finiteVortex_eq, finiteVortex_eq, fvDen_ortho h, h.norm, h.norm, h.cross]
  split_ifs
  · rw [h.smul, V3.smul_comm]
  · rw [h.zero, V3.smul_zero]

theorem semiInfVortex_ortho (u r : V3 ℝ) : semiInfVortex (R u) (R r) = V3.smul σ (R (semiInfVortex u r)) := by
  rw [semiInfVortex_eq, semiInfVortex_eq, h.norm, h.dot, h.cross, h.smul, V3.smul_comm]

/-! ### rings and lattices: only the positions relative to the evaluation point enter -/

variable {vm vm' : Mesh ℝ} {p p' : V3 ℝ}

theorem ring_ortho (hd : ∀ a b, p' - vm' a b = R (p - vm a b)) (i j : ℕ) :
    ring vm' p' i j = V3.smul σ (R (ring vm p i j)) := by
  simp only [ring, hd, finiteVortex_ortho h, h.add, V3.smul_add]

theorem trailing_ortho (u : V3 ℝ) (hd : ∀ a b, p' - vm' a b = R (p - vm a b)) (i j : ℕ) :
    trailing (R u) vm' p' i j = V3.smul σ (R (trailing u vm p i j)) := by
  simp only [trailing, hd, finiteVortex_ortho h, semiInfVortex_ortho h]
  rw [h.add, h.sub, V3.smul_add, V3.smul_sub]

/-- **a lattice seen through an orthogonal map induces `σ` times the image of what the original lattice induces** (rings, extra
trailing-edge segment and wake legs; `hd`: `vm'`, `p'` are the images of `vm`, `p` up to a common translation) -/
theorem latticeVel_ortho (nx : ℕ) (u : V3 ℝ) (r0 : ℕ) (hd : ∀ a b, p' - vm' a b = R (p - vm a b)) (i j : ℕ) :
    latticeVel nx (R u) vm' r0 p' i j = V3.smul σ (R (latticeVel nx u vm r0 p i j)) := by
  have hd' : ∀ a b, p' - vm' (r0 + a) b = R (p - vm (r0 + a) b) := fun a b => hd _ b
  unfold latticeVel
  simp only [ring_ortho h hd', h.add, V3.smul_add]
  split_ifs
  · rw [trailing_ortho h u hd']
  · rw [h.zero, V3.smul_zero]

end ortho

/-- translation invariance is built into the formulation: only differences `p − vm` enter -/
theorem latticeVel_translate (nx : ℕ) (u : V3 ℝ) (vm : Mesh ℝ) (r0 : ℕ) (p t : V3 ℝ) (i j : ℕ) :
    latticeVel nx u (fun a b => vm a b + t) r0 (p + t) i j = latticeVel nx u vm r0 p i j := by
  rw [latticeVel_ortho isOrtho_id nx u r0 (fun a b => add_sub_add_right_eq_sub p (vm a b) t), V3.one_smul]

/-! ### reversed and mirror-reversed lattices -/

/-- ring `j` of the lattice with its `C + 1` columns in reverse order is ring `C − 1 − j` traversed the other way round -/
theorem ring_reverse (C : ℕ) (vm : Mesh ℝ) (p : V3 ℝ) (i j : ℕ) (hj : j + 1 ≤ C) :
    ring (fun a b => vm a (C - b)) p i j = -ring vm p i (C - 1 - j) := by
  have e1 : C - (j + 1) = C - 1 - j := by omega
  have e2 : C - j = C - 1 - j + 1 := by omega
  simp only [ring, e1, e2]
  set A := p - vm i (C - 1 - j + 1)
  set B := p - vm i (C - 1 - j)
  set D := p - vm (i + 1) (C - 1 - j + 1)
  set E := p - vm (i + 1) (C - 1 - j)
  rw [finiteVortex_antisymm A B, finiteVortex_antisymm D A, finiteVortex_antisymm E D, finiteVortex_antisymm B E]
  abel

theorem trailing_reverse (C : ℕ) (u : V3 ℝ) (vm : Mesh ℝ) (p : V3 ℝ) (i j : ℕ) (hj : j + 1 ≤ C) :
    trailing u (fun a b => vm a (C - b)) p i j = -trailing u vm p i (C - 1 - j) := by
  have e1 : C - (j + 1) = C - 1 - j := by omega
  have e2 : C - j = C - 1 - j + 1 := by omega
  simp only [trailing, e1, e2]
  rw [finiteVortex_antisymm (p - vm (i + 1) (C - 1 - j + 1)) (p - vm (i + 1) (C - 1 - j))]
  abel

theorem latticeVel_reverse (nx C : ℕ) (u : V3 ℝ) (vm : Mesh ℝ) (r0 : ℕ) (p : V3 ℝ) (i j : ℕ) (hj : j + 1 ≤ C) :
    latticeVel nx u (fun a b => vm a (C - b)) r0 p i j = -latticeVel nx u vm r0 p i (C - 1 - j) := by
  simp only [latticeVel]
  rw [ring_reverse C (fun a b => vm (r0 + a) b) p i j hj]
  split_ifs
  · rw [trailing_reverse C u (fun a b => vm (r0 + a) b) p i j hj, neg_add]
  · rw [add_zero, add_zero]

/-- the lattice obtained by reflecting `vm` about the `x–z` plane and reversing the order of its
`C + 1` spanwise columns (the "mirrored configuration") -/
noncomputable def mirrorLattice (C : ℕ) (vm : Mesh ℝ) : Mesh ℝ := fun i c => mirrorY (vm i (C - c))

/-- **mirror equivariance of a whole lattice**: ring `j` of the mirrored lattice, seen from the mirrored point, induces the mirror
image of what ring `C−1−j` of the original lattice induces at the original point (the column reversal undoes the orientation
reversal of the reflection); the wake direction lies in the `x–z` plane -/
theorem latticeVel_mirror (nx C : ℕ) (u : V3 ℝ) (hu : u.y = 0) (vm : Mesh ℝ) (p : V3 ℝ) (i j : ℕ) (hj : j + 1 ≤ C) :
    latticeVel nx u (mirrorLattice C vm) 0 (mirrorY p) i j = mirrorY (latticeVel nx u vm 0 p i (C - 1 - j)) := by
  have hu' : mirrorY u = u := by ext <;> simp [hu]
  have := latticeVel_reverse nx C u (fun a b => mirrorY (vm a b)) 0 (mirrorY p) i j hj
  rw [← hu', latticeVel_ortho mirrorY_isOrtho nx u 0 (fun a b => (mirrorY_sub p (vm a b)).symm), hu'] at this
  rw [show mirrorLattice C vm = fun a b => mirrorY (vm a (C - b)) from rfl, this, V3.neg_one_smul, neg_neg]

theorem fvDen_mirror (a b : V3 ℝ) : fvDen (mirrorY a) (mirrorY b) = fvDen a b := fvDen_ortho mirrorY_isOrtho a b

end VLM
end OAS
