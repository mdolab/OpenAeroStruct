import OASProofs.Lemmas.System

/-!
  Rigid motions of a whole configuration: every mesh node is mapped by `A v = R v + t` with `R` a proper rotation.  Collocation and
  force points move with `A`, normals, bound vortices and induced velocities with `R`; so (`Renum.system`) the influence matrix does
  not change and panel forces rotate with the configuration.  Instantiated for rotations (`t = 0`: `aic_rot`, `rhs_rot`,
  `panelForce_rot`, and the form with given onset velocities used by the compressible group) and for translations (`R = id`).
-/
set_option linter.unusedSectionVars false
set_option linter.unusedSimpArgs false
namespace OAS

/-- a proper rotation of ℝ³, given by the properties the proofs use -/
structure IsRot (R : V3 ℝ → V3 ℝ) : Prop where
  add : ∀ a b, R (a + b) = R a + R b
  smul : ∀ (c : ℝ) a, R (V3.smul c a) = V3.smul c (R a)
  dot : ∀ a b, V3.dot (R a) (R b) = V3.dot a b
  cross : ∀ a b, V3.cross (R a) (R b) = R (V3.cross a b)

theorem IsRot.isOrtho {R : V3 ℝ → V3 ℝ} (h : IsRot R) : IsOrtho 1 R :=
  ⟨h.add, h.smul, h.dot, fun a b => by rw [h.cross, V3.one_smul]⟩

namespace VLM

/-- the surface with every mesh node mapped by `R` -/
noncomputable def mapSurf (R : V3 ℝ → V3 ℝ) (s : Surf ℝ) : Surf ℝ := { s with mesh := fun i j => R (s.mesh i j) }

@[simp] theorem mapSurf_nx (R : V3 ℝ → V3 ℝ) (s : Surf ℝ) : (mapSurf R s).nx = s.nx := rfl
@[simp] theorem mapSurf_ny (R : V3 ℝ → V3 ℝ) (s : Surf ℝ) : (mapSurf R s).ny = s.ny := rfl
@[simp] theorem mapSurf_sym (R : V3 ℝ → V3 ℝ) (s : Surf ℝ) : (mapSurf R s).sym = s.sym := rfl
@[simp] theorem mapSurf_left (R : V3 ℝ → V3 ℝ) (s : Surf ℝ) : (mapSurf R s).left = s.left := rfl
@[simp] theorem mapSurf_ground (R : V3 ℝ → V3 ℝ) (s : Surf ℝ) : (mapSurf R s).ground = s.ground := rfl
@[simp] theorem mapSurf_mesh (R : V3 ℝ → V3 ℝ) (s : Surf ℝ) (i j : ℕ) : (mapSurf R s).mesh i j = R (s.mesh i j) := rfl
@[simp] theorem mapSurf_npanels (R : V3 ℝ → V3 ℝ) (s : Surf ℝ) : (mapSurf R s).npanels = s.npanels := rfl

theorem dec_quarter_sum : (dec 25 100 * dec 5 10 + dec 75 100 * dec 5 10 + dec 25 100 * dec 5 10 + dec 75 100 * dec 5 10 : ℝ) = 1 := by
  simp only [dec_def]; norm_num

/-! ### one surface under `A v = R v + t` -/
section rigid
variable {ε : ℝ} {R A : V3 ℝ → V3 ℝ} {t : V3 ℝ} (hR : IsOrtho ε R) (hA : ∀ v, A v = R v + t)
include hR hA

theorem collPt_map (s : Surf ℝ) (i j : ℕ) : collPt (mapSurf A s) i j = A (collPt s i j) := by
  simp only [collPt, mapSurf_mesh, hA, hR.add, hR.smul]
  ext <;> simp only [V3.add_x, V3.add_y, V3.add_z, V3.smul_x, V3.smul_y, V3.smul_z, dec_def] <;> push_cast <;> ring

theorem forcePt_map (s : Surf ℝ) (i j : ℕ) : forcePt (mapSurf A s) i j = A (forcePt s i j) := by
  simp only [forcePt, mapSurf_mesh, hA, hR.add, hR.smul]
  ext <;> simp only [V3.add_x, V3.add_y, V3.add_z, V3.smul_x, V3.smul_y, V3.smul_z, dec_def] <;> push_cast <;> ring

theorem boundVec_map (s : Surf ℝ) (i j : ℕ) : boundVec (mapSurf A s) i j = R (boundVec s i j) := by
  simp only [boundVec, mapSurf_mesh, hA, hR.add, hR.smul]
  ext <;> simp only [V3.add_x, V3.add_y, V3.add_z, V3.smul_x, V3.smul_y, V3.smul_z, dec_def] <;> push_cast <;> ring

omit hR in
theorem sub_map (a b : V3 ℝ) : A a - A b = R a - R b := by rw [hA, hA, add_sub_add_right_eq_sub]

theorem normal_map (hε : ε * ε = 1) (s : Surf ℝ) (i j : ℕ) : normal (mapSurf A s) i j = V3.smul ε (R (normal s i j)) := by
  simp only [normal, VLMGeometry.normals, VLMGeometry.rawNormal, mapSurf_mesh, sub_map hA, ← hR.sub, hR.cross]
  set n := V3.cross (s.mesh i (j + 1) - s.mesh (i + 1) j) (s.mesh i j - s.mesh (i + 1) (j + 1))
  have hn : V3.norm (V3.smul ε (R n)) = V3.norm n := by
    rw [← hR.norm n]
    simp only [V3.norm, V3.smul_x, V3.smul_y, V3.smul_z]
    exact congrArg Real.sqrt (by linear_combination ((R n).x * (R n).x + (R n).y * (R n).y + (R n).z * (R n).z) * hε)
  have e : (⟨n.x / V3.norm n, n.y / V3.norm n, n.z / V3.norm n⟩ : V3 ℝ) = V3.smul (1 / V3.norm n) n := by
    ext <;> simp only [V3.smul_x, V3.smul_y, V3.smul_z] <;> ring
  rw [hn, e, hR.smul]
  ext <;> simp only [V3.smul_x, V3.smul_y, V3.smul_z] <;> ring

theorem shiftQuarter_map (nx : ℕ) (m : Mesh ℝ) (i c : ℕ) :
    shiftQuarter nx (fun a b => A (m a b)) i c = A (shiftQuarter nx m i c) := by
  unfold shiftQuarter
  split_ifs
  · simp only [hA, hR.add, hR.smul]
    ext <;> simp only [V3.add_x, V3.add_y, V3.add_z, V3.smul_x, V3.smul_y, V3.smul_z, dec_def] <;> push_cast <;> ring
  · rfl

omit hR hA in
theorem extMesh_map (s : Surf ℝ) (hm : s.sym = true → ∀ v, A (mirrorY v) = mirrorY (A v)) (i c : ℕ) :
    extMesh (mapSurf A s) i c = A (extMesh s i c) := by
  obtain ⟨nx, ny, sym, left, ground, mesh⟩ := s
  change extMesh ⟨nx, ny, sym, left, ground, fun i j => A (mesh i j)⟩ i c = _
  simp only [extMesh]
  cases sym
  · simp
  · have hm' := hm rfl
    cases left <;> simp only [if_true, Bool.false_eq_true, if_false] <;> split_ifs <;> simp only [hm']

/-- the vortex mesh of the mapped surface is the mapped vortex mesh (no ground effect: the ground plane would have to move too) -/
theorem vortexMesh_map (s : Surf ℝ) (hg : s.ground = false) (hm : s.sym = true → ∀ v, A (mirrorY v) = mirrorY (A v))
    (a a' hh hh' : ℝ) : vortexMesh (mapSurf A s) a' hh' = fun i c => A (vortexMesh s a hh i c) := by
  funext i c
  simp only [vortexMesh, mapSurf_ground, hg, Bool.false_eq_true, if_false, mapSurf_nx,
    funext₂ (extMesh_map s hm), shiftQuarter_map hR hA]

theorem velMtx_map (s : Surf ℝ) (hg : s.ground = false) (al al' : ℝ) (hw : wakeDir al' = R (wakeDir al))
    (vm : Mesh ℝ) (p : V3 ℝ) (i j : ℕ) :
    velMtx (mapSurf A s) al' (fun a b => A (vm a b)) (A p) i j = V3.smul ε (R (velMtx s al vm p i j)) := by
  have hd : ∀ a b, A p - A (vm a b) = R (p - vm a b) := fun a b => by rw [sub_map hA, hR.sub]
  have key : ∀ jj, velRaw (mapSurf A s) (R (wakeDir al)) (fun a b => A (vm a b)) (A p) i jj
      = V3.smul ε (R (velRaw s (wakeDir al) vm p i jj)) := fun jj => by
    simp only [velRaw, mapSurf_ground, hg, Bool.false_eq_true, if_false, mapSurf_nx, latticeVel_ortho hR _ _ 0 hd]
  simp only [velMtx, mapSurf_sym, mapSurf_left, mapSurf_ny, hw, key]
  by_cases hs : s.sym = true
  · simp only [hs, if_true, hR.add, V3.smul_add]; rfl
  · simp only [hs, Bool.false_eq_true, if_false]

end rigid

/-! ### the whole configuration under a rigid motion -/
section system
variable {R A : V3 ℝ → V3 ℝ} {t : V3 ℝ} {surfs : List (Surf ℝ)} {f f' : Flow ℝ}

/-- hypotheses of the rigid-motion theorems: `A v = R v + t` with `R` a proper rotation; no ground effect; `A` commutes with the
`y`-mirror for symmetric surfaces; the wake direction of `f'` is the rotated one of `f`; same density -/
structure Rigid (R A : V3 ℝ → V3 ℝ) (t : V3 ℝ) (surfs : List (Surf ℝ)) (f f' : Flow ℝ) : Prop where
  ortho : IsOrtho 1 R
  affine : ∀ v, A v = R v + t
  ground : ∀ s ∈ surfs, s.ground = false
  mirror : ∀ s ∈ surfs, s.sym = true → ∀ v, A (mirrorY v) = mirrorY (A v)
  wake : wakeDir f'.alpha = R (wakeDir f.alpha)
  rho : f'.rho = f.rho

variable (H : Rigid R A t surfs f f')
include H

theorem Rigid.influence_map (p : V3 ℝ) (n : ℕ) :
    influence (surfs.map (mapSurf A)) f' (A p) n = R (influence surfs f p n) := by
  unfold influence
  rw [locate_map (mapSurf A) (fun _ => rfl) (fun _ => rfl)]
  cases hl : locate surfs n with
  | none => exact H.ortho.zero.symm
  | some u =>
    obtain ⟨s, i, j⟩ := u
    have hs := locate_mem surfs n s i j hl
    simp only [Option.map_some]
    rw [vortexMesh_map H.ortho H.affine s (H.ground s hs) (H.mirror s hs) (deg2rad f.alpha) (deg2rad f'.alpha) f.h f'.h,
      velMtx_map H.ortho H.affine s (H.ground s hs) f.alpha f'.alpha H.wake, V3.one_smul]

/-- **the influence matrix is invariant under a rigid motion of the whole configuration together with the flow** -/
theorem Rigid.aic_eq (m n : ℕ) : aic (surfs.map (mapSurf A)) f' m n = aic surfs f m n :=
  (Renum.map (mapSurf A) (fun _ => rfl) (fun _ => rfl) surfs).aic_eq (fun _ s i j _ => collPt_map H.ortho H.affine s i j)
    (fun _ s i j _ => by rw [normal_map H.ortho H.affine (one_mul 1), V3.one_smul]) H.ortho.dot H.influence_map m n

/-- **… and panel forces rotate with the configuration when the onset velocities do** -/
theorem Rigid.panelForceWith_eq {on on' : ℕ → V3 ℝ} (hon : ∀ m, on' m = R (on m)) (gamma : ℕ → ℝ) (m : ℕ) :
    panelForceWith (surfs.map (mapSurf A)) f' on' gamma m = R (panelForceWith surfs f on gamma m) :=
  (Renum.map (mapSurf A) (fun _ => rfl) (fun _ => rfl) surfs).panelForceWith_eq H.ortho (one_mul 1) H.rho
    (fun _ s i j _ => forcePt_map H.ortho H.affine s i j)
    (fun _ s i j _ => by rw [boundVec_map H.ortho H.affine, V3.one_smul]) H.influence_map hon gamma m

variable (hon : ∀ c, onset f' (A c) = R (onset f c))
include hon

/-- **so is the right-hand side, when the onset flow of `f'` is the rotated onset flow of `f` …** -/
theorem Rigid.rhs_eq (m : ℕ) : rhs (surfs.map (mapSurf A)) f' m = rhs surfs f m :=
  (Renum.map (mapSurf A) (fun _ => rfl) (fun _ => rfl) surfs).rhs_eq (fun _ s i j _ => collPt_map H.ortho H.affine s i j)
    (fun _ s i j _ => by rw [normal_map H.ortho H.affine (one_mul 1), V3.one_smul]) H.ortho.dot hon m

/-- **… and then the panel forces rotate with the configuration** -/
theorem Rigid.panelForce_eq (gamma : ℕ → ℝ) (m : ℕ) :
    panelForce (surfs.map (mapSurf A)) f' gamma m = R (panelForce surfs f gamma m) := by
  rw [panelForce_eq_with, panelForce_eq_with]
  exact H.panelForceWith_eq ((Renum.map (mapSurf A) (fun _ => rfl) (fun _ => rfl) surfs).onsetAt_eq
    (fun _ s i j _ => collPt_map H.ortho H.affine s i j) H.ortho.zero hon) gamma m

end system

/-! ### rotations -/

/-- the geometric part of the hypotheses: no ground effect, `R` commutes with the `y`-mirror for symmetric surfaces, the wake
direction of `f'` is the rotated one of `f` -/
structure RotGeo (R : V3 ℝ → V3 ℝ) (surfs : List (Surf ℝ)) (f f' : Flow ℝ) : Prop where
  ground : ∀ s ∈ surfs, s.ground = false
  mirror : ∀ s ∈ surfs, s.sym = true → ∀ v, R (mirrorY v) = mirrorY (R v)
  wake : wakeDir f'.alpha = R (wakeDir f.alpha)

/-- hypotheses on the configuration and on the two flow conditions for the rotation theorems:
no ground effect, `R` commutes with the `y`-mirror for symmetric surfaces, the wake direction and the
free stream of `f'` are the rotated ones of `f`, no rotation rates -/
structure RotHyp (R : V3 ℝ → V3 ℝ) (surfs : List (Surf ℝ)) (f f' : Flow ℝ) : Prop where
  ground : ∀ s ∈ surfs, s.ground = false
  mirror : ∀ s ∈ surfs, s.sym = true → ∀ v, R (mirrorY v) = mirrorY (R v)
  wake : wakeDir f'.alpha = R (wakeDir f.alpha)
  stream : freestreamDir f' = R (freestreamDir f)
  rot : f.rotational = false
  rot' : f'.rotational = false
  rho : f'.rho = f.rho

section rotations
variable {R : V3 ℝ → V3 ℝ} (h : IsRot R)
include h

theorem RotGeo.rigid {surfs : List (Surf ℝ)} {f f' : Flow ℝ} (H : RotGeo R surfs f f') (hrho : f'.rho = f.rho) :
    Rigid R R 0 surfs f f' :=
  ⟨h.isOrtho, fun _ => (add_zero _).symm, H.ground, H.mirror, H.wake, hrho⟩

theorem RotHyp.rigid {surfs : List (Surf ℝ)} {f f' : Flow ℝ} (H : RotHyp R surfs f f') : Rigid R R 0 surfs f f' :=
  ⟨h.isOrtho, fun _ => (add_zero _).symm, H.ground, H.mirror, H.wake, H.rho⟩

omit h in
theorem RotHyp.onset_map {surfs : List (Surf ℝ)} {f f' : Flow ℝ} (H : RotHyp R surfs f f') (c : V3 ℝ) :
    onset f' (R c) = R (onset f c) := by
  simp only [onset, H.rot, H.rot', Bool.false_eq_true, if_false, H.stream]

/-- **the influence matrix is invariant under a rotation of the whole configuration together with the flow** -/
theorem aic_rot (surfs : List (Surf ℝ)) (f f' : Flow ℝ) (H : RotHyp R surfs f f') (m n : ℕ) :
    aic (surfs.map (mapSurf R)) f' m n = aic surfs f m n :=
  (H.rigid h).aic_eq m n

/-- **… so is the right-hand side …** -/
theorem rhs_rot (surfs : List (Surf ℝ)) (f f' : Flow ℝ) (H : RotHyp R surfs f f') (m : ℕ) :
    rhs (surfs.map (mapSurf R)) f' m = rhs surfs f m :=
  (H.rigid h).rhs_eq H.onset_map m

/-- **… and the panel forces rotate with the configuration.** -/
theorem panelForce_rot (surfs : List (Surf ℝ)) (f f' : Flow ℝ) (H : RotHyp R surfs f f') (gamma : ℕ → ℝ) (m : ℕ) :
    panelForce (surfs.map (mapSurf R)) f' gamma m = R (panelForce surfs f gamma m) :=
  (H.rigid h).panelForce_eq H.onset_map gamma m


end rotations

/-! ### translations -/

/-- the translation by `d` -/
noncomputable def shiftBy (d : V3 ℝ) : V3 ℝ → V3 ℝ := fun v => v + d

/-- hypotheses of the translation theorems: no ground effect (the ground plane would have to move too); a translation of a
symmetric surface stays in the symmetry plane; same flow, the centre of gravity translated along -/
structure ShiftHyp (d : V3 ℝ) (surfs : List (Surf ℝ)) (f f' : Flow ℝ) : Prop where
  ground : ∀ s ∈ surfs, s.ground = false
  plane : ∀ s ∈ surfs, s.sym = true → d.y = 0
  alpha : f'.alpha = f.alpha
  beta : f'.beta = f.beta
  v : f'.v = f.v
  rho : f'.rho = f.rho
  omega : f'.omega = f.omega
  rot : f'.rotational = f.rotational
  cg : f'.cg = f.cg + d

theorem ShiftHyp.rigid {d : V3 ℝ} {surfs : List (Surf ℝ)} {f f' : Flow ℝ} (H : ShiftHyp d surfs f f') :
    Rigid (fun v => v) (shiftBy d) d surfs f f' :=
  ⟨isOrtho_id, fun _ => rfl, H.ground,
    fun s hs hsym v => by ext <;> simp [shiftBy, H.plane s hs hsym], by rw [H.alpha], H.rho⟩

/-- rotation rates about the translated centre of gravity give the same onset flow at the translated point -/
theorem ShiftHyp.onset_map {d : V3 ℝ} {surfs : List (Surf ℝ)} {f f' : Flow ℝ} (H : ShiftHyp d surfs f f') (c : V3 ℝ) :
    onset f' (shiftBy d c) = onset f c := by
  have hfs : freestreamDir f' = freestreamDir f := by simp only [freestreamDir, H.alpha, H.beta, H.v]
  simp only [onset, shiftBy, H.rot, hfs, H.omega, H.cg, add_sub_add_right_eq_sub]

end VLM
end OAS
