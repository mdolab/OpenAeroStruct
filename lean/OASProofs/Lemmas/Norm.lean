import OASProofs.Lemmas.Basic
import OASProofs.Lemmas.Real

/-! Norms of real vectors: `‖a‖² = a·a`, and unit vectors. -/
namespace OAS
namespace V3

theorem normSq_nonneg (a : V3 ℝ) : 0 ≤ normSq a :=
  add_nonneg (add_nonneg (mul_self_nonneg _) (mul_self_nonneg _)) (mul_self_nonneg _)

theorem norm_mul_self (a : V3 ℝ) : norm a * norm a = normSq a := Real.mul_self_sqrt (normSq_nonneg a)

theorem norm_ne_zero {a : V3 ℝ} (h : 0 < normSq a) : norm a ≠ 0 := fun h0 => by
  have := norm_mul_self a
  rw [h0, mul_zero] at this
  exact h.ne this

theorem dot_unit_self {a : V3 ℝ} (h : norm a ≠ 0) : dot (unit a) (unit a) = 1 := by
  have h2 := norm_mul_self a
  simp only [unit, dot, normSq] at h2 ⊢
  field_simp
  linarith

theorem norm_smul_of_nonneg {k : ℝ} (hk : 0 ≤ k) (a : V3 ℝ) : norm (smul k a) = k * norm a := by
  simp only [norm, smul_x, smul_y, smul_z, elem_sqrt]
  rw [show k * a.x * (k * a.x) + k * a.y * (k * a.y) + k * a.z * (k * a.z) = k * k * (a.x * a.x + a.y * a.y + a.z * a.z) by ring,
    Real.sqrt_mul (mul_self_nonneg k), Real.sqrt_mul_self hk]

/-- Lagrange identity: `|a × b|² = |a|² |b|² − (a·b)²` -/
theorem lagrange (a b : V3 ℝ) : normSq (cross a b) = dot a a * dot b b - dot a b * dot a b := by
  simp only [normSq, cross, dot]; ring

end V3
end OAS
