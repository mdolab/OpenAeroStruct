import OASProofs.Lemmas.Basic

/-!
  Index bookkeeping.  Row-major flattening: entry `(i, j)` of an `a × b` array sits at `i * b + j`; sums over flattened arrays.
  Running offsets of a list of block sizes: the pair `offset`/`locate` of the (de)multiplexers (`Mux`) and of the aerodynamic glue
  components (`Glue`) are the same index maps, inverse to each other on the valid ranges.
-/
set_option linter.unusedSectionVars false
namespace OAS
open Finset

section index
variable {a b i j : ℕ}

theorem idx_lt (hi : i < a) (hj : j < b) : i * b + j < a * b :=
  calc i * b + j < i * b + b := Nat.add_lt_add_left hj _
    _ = (i + 1) * b := (Nat.succ_mul i b).symm
    _ ≤ a * b := Nat.mul_le_mul_right b hi

theorem idx_div (i : ℕ) (hj : j < b) : (i * b + j) / b = i := by
  rw [Nat.mul_comm, Nat.mul_add_div (by omega), Nat.div_eq_of_lt hj, Nat.add_zero]

theorem idx_mod (i : ℕ) (hj : j < b) : (i * b + j) % b = j := Nat.mul_add_mod_of_lt hj

end index

section sums
variable {K : Type} [AddCommMonoid K]

/-- the entry `r < m` selected from a sum over `range m` -/
theorem sum_range_ite_eq {m r : ℕ} (hr : r < m) (g : ℕ → K) : (∑ x ∈ range m, if x = r then g x else 0) = g r := by
  rw [Finset.sum_ite_eq' (range m) r, if_pos (Finset.mem_range.mpr hr)]

/-- a sum over an `a × b` array in row-major order -/
theorem sum_range_mul (a b : ℕ) (g : ℕ → K) : ∑ n ∈ range (a * b), g n = ∑ i ∈ range a, ∑ j ∈ range b, g (i * b + j) := by
  induction a with
  | zero => rw [Nat.zero_mul, Finset.sum_range_zero, Finset.sum_range_zero]
  | succ a ih => rw [Nat.succ_mul, Finset.sum_range_add, ih, Finset.sum_range_succ]

/-- sums of vectors over equal terms -/
theorem V3.sumTo_ext [Sub K] [Mul K] [Neg K] (n : ℕ) (g g' : ℕ → V3 K) (h : ∀ k, k < n → g k = g' k) : V3.sumTo n g = V3.sumTo n g' := by
  ext <;> simp only [V3.sumTo_x, V3.sumTo_y, V3.sumTo_z] <;>
    exact Finset.sum_congr rfl fun k hk => by rw [h k (Finset.mem_range.mp hk)]

end sums

section dot
variable {K : Type} [CommRing K]

theorem V3.dot_add_left (a b n : V3 K) : V3.dot (a + b) n = V3.dot a n + V3.dot b n := by
  simp only [V3.dot, V3.add_x, V3.add_y, V3.add_z]; ring

/-- the normal component of a weighted sum of vectors -/
theorem V3.dot_sumTo_smul_left (N : ℕ) (c : ℕ → K) (f : ℕ → V3 K) (n : V3 K) :
    V3.dot (V3.sumTo N fun m => V3.smul (c m) (f m)) n = ∑ m ∈ range N, V3.dot (f m) n * c m := by
  simp only [V3.dot, V3.sumTo_x, V3.sumTo_y, V3.sumTo_z, V3.smul_x, V3.smul_y, V3.smul_z, Finset.sum_mul, ← Finset.sum_add_distrib]
  exact Finset.sum_congr rfl fun m _ => by ring

end dot

/-! ### running offsets -/

theorem Mux.offset_eq_glue : ∀ (sz : List ℕ) (s : ℕ), Mux.offset sz s = Glue.offset sz s
  | [], _ => rfl
  | _ :: _, 0 => rfl
  | n :: rest, s + 1 => congrArg (n + ·) (Mux.offset_eq_glue rest s)

/-- `locate` is a left inverse of `(s, k) ↦ offset s + k` -/
theorem Mux.locate_offset : ∀ (sz : List ℕ) (s k : ℕ), s < sz.length → k < sz.getD s 0 →
    Mux.locate sz (Mux.offset sz s + k) = some (s, k)
  | [], _, _, hs, _ => absurd hs (Nat.not_lt_zero _)
  | n :: rest, 0, k, _, hk => by
      show Mux.locate (n :: rest) (0 + k) = _
      rw [Nat.zero_add]
      exact if_pos hk
  | n :: rest, s + 1, k, hs, hk => by
      show (if n + Mux.offset rest s + k < n then _ else (Mux.locate rest (n + Mux.offset rest s + k - n)).map _) = _
      rw [if_neg (by omega), Nat.add_assoc, Nat.add_sub_cancel_left, Mux.locate_offset rest s k (Nat.lt_of_succ_lt_succ hs) hk]
      rfl

/-- … and a right inverse: every index below the total is `offset s + k` of the valid pair `locate` returns -/
theorem Mux.locate_some : ∀ (sz : List ℕ) (g : ℕ), g < Mux.total sz →
    ∃ s k, Mux.locate sz g = some (s, k) ∧ s < sz.length ∧ k < sz.getD s 0 ∧ Mux.offset sz s + k = g
  | [], _, hg => absurd hg (Nat.not_lt_zero _)
  | n :: rest, g, hg => by
      by_cases h : g < n
      · exact ⟨0, g, if_pos h, Nat.zero_lt_succ _, h, Nat.zero_add g⟩
      · have hg' : g - n < Mux.total rest := by
          have : Mux.total (n :: rest) = n + Mux.total rest := List.sum_cons
          omega
        obtain ⟨s, k, h1, h2, h3, h4⟩ := Mux.locate_some rest (g - n) hg'
        refine ⟨s + 1, k, ?_, Nat.succ_lt_succ h2, h3, ?_⟩
        · show (if g < n then _ else (Mux.locate rest (g - n)).map _) = _
          rw [if_neg h, h1]; rfl
        · show n + Mux.offset rest s + k = g
          omega

/-- the pair-valued `Glue.locate` returns what the multiplexer's `locate` returns -/
theorem Glue.locate_of_mux : ∀ (sz : List ℕ) (g : ℕ) (p : ℕ × ℕ), Mux.locate sz g = some p → Glue.locate sz g = p
  | [], _, _, h => nomatch h
  | [n], g, p, h => by
      by_cases hg : g < n
      · exact Option.some.inj ((if_pos hg).symm.trans h)
      · exact nomatch (if_neg hg).symm.trans h
  | n :: n' :: rest, g, p, h => by
      show (if g < n then (0, g) else _) = p
      by_cases hg : g < n
      · rw [if_pos hg]
        exact Option.some.inj ((if_pos hg).symm.trans h)
      · obtain ⟨q, hq, rfl⟩ := Option.map_eq_some_iff.1 ((if_neg hg).symm.trans h)
        rw [if_neg hg, Glue.locate_of_mux (n' :: rest) (g - n) q hq]
end OAS
