import OASModel
import Mathlib.Algebra.BigOperators.Intervals
import Mathlib.Algebra.BigOperators.Ring.Finset
import Mathlib.Algebra.BigOperators.Field
import Mathlib.Algebra.Order.BigOperators.Ring.Finset
import Mathlib.Tactic.Ring
import Mathlib.Tactic.FieldSimp
import Mathlib.Tactic.Linarith
import Mathlib.Tactic.NormNum
import Mathlib.Tactic.IntervalCases

/-!
  Helper lemmas shared by the property files: the bridge from the model's recursive `sumTo`
  to `Finset.sum`, component lemmas for `V3`, and the "scatter-add" pattern
  `out[:-1] = a ; out[1:] += b` that OAS uses for every element → node accumulation.
-/
set_option linter.unusedSectionVars false
namespace OAS
open Finset

section sums
variable {K : Type} [AddCommMonoid K]

theorem sumTo_eq_sum (n : ℕ) (f : ℕ → K) : sumTo n f = ∑ i ∈ range n, f i := by
  induction n with
  | zero => simp [sumTo]
  | succ n ih => simp [sumTo, ih, Finset.sum_range_succ]

/-- `out[:-1] = g ; out[1:] += h` summed over all `m+1` entries is `Σ (g + h)` over the `m`
elements. -/
theorem scatter_sum (m : ℕ) (g h : ℕ → K) :
    ∑ j ∈ range (m + 1), ((if j < m then g j else 0) + (if 1 ≤ j then h (j - 1) else 0))
      = ∑ j ∈ range m, (g j + h j) := by
  rw [Finset.sum_add_distrib, Finset.sum_add_distrib]
  congr 1
  · rw [Finset.sum_range_succ]
    simp only [lt_self_iff_false, if_false, add_zero]
    exact Finset.sum_congr rfl (fun j hj => by simp [Finset.mem_range.mp hj])
  · rw [Finset.sum_range_succ']
    simp

/-- `out[:-1] = g` : entries `j < m` of an array of length `m+1` -/
theorem sum_ite_lt_last (m : ℕ) (g : ℕ → K) :
    ∑ j ∈ range (m + 1), (if j < m then g j else 0) = ∑ j ∈ range m, g j := by
  rw [Finset.sum_range_succ]
  simp only [lt_self_iff_false, if_false, add_zero]
  exact Finset.sum_congr rfl (fun j hj => by simp [Finset.mem_range.mp hj])

/-- `out[1:] += h` : entries `1 ≤ j` of an array of length `m+1` -/
theorem sum_ite_one_le (m : ℕ) (h : ℕ → K) :
    ∑ j ∈ range (m + 1), (if 1 ≤ j then h j else 0) = ∑ j ∈ range m, h (j + 1) := by
  rw [Finset.sum_range_succ']
  simp

end sums

section scatter
variable {K : Type}

/-- the scatter `out[:-1] = g ; out[1:] += h` with both deposits indexed by the receiving node: element `e` puts `g e` on
node `e` and `h (e + 1)` on node `e + 1` -/
theorem sum_scatter [AddCommMonoid K] (m : ℕ) (g h : ℕ → K) :
    ∑ j ∈ range (m + 1), ((if j < m then g j else 0) + (if 1 ≤ j then h j else 0))
      = ∑ e ∈ range m, (g e + h (e + 1)) := by
  rw [Finset.sum_add_distrib, sum_ite_lt_last, sum_ite_one_le, Finset.sum_add_distrib]

end scatter

namespace V3
variable {K : Type}

@[ext] theorem ext' {a b : V3 K} (hx : a.x = b.x) (hy : a.y = b.y) (hz : a.z = b.z) : a = b := by
  cases a; cases b; simp_all

section
variable [Add K] [Sub K] [Mul K] [Neg K] [Zero K]
@[simp] theorem add_x (a b : V3 K) : (a + b).x = a.x + b.x := rfl
@[simp] theorem add_y (a b : V3 K) : (a + b).y = a.y + b.y := rfl
@[simp] theorem add_z (a b : V3 K) : (a + b).z = a.z + b.z := rfl
@[simp] theorem sub_x (a b : V3 K) : (a - b).x = a.x - b.x := rfl
@[simp] theorem sub_y (a b : V3 K) : (a - b).y = a.y - b.y := rfl
@[simp] theorem sub_z (a b : V3 K) : (a - b).z = a.z - b.z := rfl
@[simp] theorem neg_x (a : V3 K) : (-a).x = -a.x := rfl
@[simp] theorem neg_y (a : V3 K) : (-a).y = -a.y := rfl
@[simp] theorem neg_z (a : V3 K) : (-a).z = -a.z := rfl
@[simp] theorem zero_x : (0 : V3 K).x = 0 := rfl
@[simp] theorem zero_y : (0 : V3 K).y = 0 := rfl
@[simp] theorem zero_z : (0 : V3 K).z = 0 := rfl
@[simp] theorem smul_x (c : K) (a : V3 K) : (smul c a).x = c * a.x := rfl
@[simp] theorem smul_y (c : K) (a : V3 K) : (smul c a).y = c * a.y := rfl
@[simp] theorem smul_z (c : K) (a : V3 K) : (smul c a).z = c * a.z := rfl
@[simp] theorem cross_x (a b : V3 K) : (cross a b).x = a.y * b.z - a.z * b.y := rfl
@[simp] theorem cross_y (a b : V3 K) : (cross a b).y = a.z * b.x - a.x * b.z := rfl
@[simp] theorem cross_z (a b : V3 K) : (cross a b).z = a.x * b.y - a.y * b.x := rfl
@[simp] theorem ite_x (c : Prop) [Decidable c] (a b : V3 K) : (if c then a else b).x = if c then a.x else b.x := by
  split <;> rfl
@[simp] theorem ite_y (c : Prop) [Decidable c] (a b : V3 K) : (if c then a else b).y = if c then a.y else b.y := by
  split <;> rfl
@[simp] theorem ite_z (c : Prop) [Decidable c] (a b : V3 K) : (if c then a else b).z = if c then a.z else b.z := by
  split <;> rfl
end

section
variable [Add K] [Sub K] [Mul K] [Zero K]
/-- a linear functional on `V3 K`, in the terms of the model's operations; the coordinate projections are the instances used.
Vector identities are proved coordinate by coordinate: stating the scalar identity once for a `Linear p` replaces three
copies of it. -/
structure Linear (p : V3 K → K) : Prop where
  zero : p 0 = 0
  add : ∀ a b, p (a + b) = p a + p b
  sub : ∀ a b, p (a - b) = p a - p b
  smul : ∀ k a, p (smul k a) = k * p a

theorem linear_x : Linear (x : V3 K → K) := ⟨rfl, fun _ _ => rfl, fun _ _ => rfl, fun _ _ => rfl⟩
theorem linear_y : Linear (y : V3 K → K) := ⟨rfl, fun _ _ => rfl, fun _ _ => rfl, fun _ _ => rfl⟩
theorem linear_z : Linear (z : V3 K → K) := ⟨rfl, fun _ _ => rfl, fun _ _ => rfl, fun _ _ => rfl⟩
end

section
variable [AddCommMonoid K] [Sub K] [Mul K] [Neg K]
@[simp] theorem sumTo_x (n : ℕ) (f : ℕ → V3 K) : (V3.sumTo n f).x = ∑ i ∈ range n, (f i).x := by
  simp [V3.sumTo, OAS.sumTo_eq_sum]
@[simp] theorem sumTo_y (n : ℕ) (f : ℕ → V3 K) : (V3.sumTo n f).y = ∑ i ∈ range n, (f i).y := by
  simp [V3.sumTo, OAS.sumTo_eq_sum]
@[simp] theorem sumTo_z (n : ℕ) (f : ℕ → V3 K) : (V3.sumTo n f).z = ∑ i ∈ range n, (f i).z := by
  simp [V3.sumTo, OAS.sumTo_eq_sum]

/-- two vectors on which every linear functional agrees are equal -/
theorem ext_linear {a b : V3 K} (h : ∀ p : V3 K → K, Linear p → p a = p b) : a = b :=
  ext' (h _ linear_x) (h _ linear_y) (h _ linear_z)

theorem Linear.map_sumTo {p : V3 K → K} (hp : Linear p) (n : ℕ) (f : ℕ → V3 K) :
    p (V3.sumTo n f) = ∑ i ∈ range n, p (f i) := by
  induction n with
  | zero => exact hp.zero
  | succ n ih => rw [Finset.sum_range_succ, ← ih, ← hp.add]; rfl
end

section
variable [CommRing K]

theorem cross_add_left (a b c : V3 K) : cross (a + b) c = cross a c + cross b c := by
  ext <;> simp only [cross_x, cross_y, cross_z, add_x, add_y, add_z] <;> ring
theorem cross_sub_left (a b c : V3 K) : cross (a - b) c = cross a c - cross b c := by
  ext <;> simp only [cross_x, cross_y, cross_z, sub_x, sub_y, sub_z] <;> ring
theorem cross_smul_left (k : K) (a c : V3 K) : cross (smul k a) c = smul k (cross a c) := by
  ext <;> simp only [cross_x, cross_y, cross_z, smul_x, smul_y, smul_z] <;> ring

/-- the moment `a × ·` about a fixed arm, seen through a linear functional, is linear in the force -/
theorem Linear.cross_left {p : V3 K → K} (hp : Linear p) (a : V3 K) : Linear fun b => p (cross a b) where
  zero := by
    rw [show cross a 0 = 0 by ext <;> simp only [cross_x, cross_y, cross_z, zero_x, zero_y, zero_z] <;> ring, hp.zero]
  add b c := by
    rw [show cross a (b + c) = cross a b + cross a c by
      ext <;> simp only [cross_x, cross_y, cross_z, add_x, add_y, add_z] <;> ring, hp.add]
  sub b c := by
    rw [show cross a (b - c) = cross a b - cross a c by
      ext <;> simp only [cross_x, cross_y, cross_z, sub_x, sub_y, sub_z] <;> ring, hp.sub]
  smul k b := by
    rw [show cross a (V3.smul k b) = V3.smul k (cross a b) by
      ext <;> simp only [cross_x, cross_y, cross_z, smul_x, smul_y, smul_z] <;> ring, hp.smul]
end

/-- the model's own `+ − 0` on `V3 K` form a commutative group when `K` is one: Mathlib's group lemmas, `abel` and `Finset.sum`
apply to model terms as they stand -/
instance {K : Type} [AddCommGroup K] : AddCommGroup (V3 K) where
  add_assoc a b c := by ext <;> simp only [V3.add_x, V3.add_y, V3.add_z, add_assoc]
  zero_add a := by ext <;> simp only [V3.add_x, V3.add_y, V3.add_z, V3.zero_x, V3.zero_y, V3.zero_z, zero_add]
  add_zero a := by ext <;> simp only [V3.add_x, V3.add_y, V3.add_z, V3.zero_x, V3.zero_y, V3.zero_z, add_zero]
  add_comm a b := by ext <;> simp only [V3.add_x, V3.add_y, V3.add_z, add_comm]
  neg_add_cancel a := by
    ext <;> simp only [V3.add_x, V3.add_y, V3.add_z, V3.neg_x, V3.neg_y, V3.neg_z, V3.zero_x, V3.zero_y, V3.zero_z, neg_add_cancel]
  sub_eq_add_neg a b := by
    ext <;> simp only [V3.add_x, V3.add_y, V3.add_z, V3.neg_x, V3.neg_y, V3.neg_z, V3.sub_x, V3.sub_y, V3.sub_z, sub_eq_add_neg]
  nsmul := nsmulRec
  zsmul := zsmulRec

/-- `V3.sumTo` is the `Finset` sum of vectors -/
theorem sumTo_eq_sum {K : Type} [AddCommGroup K] (n : ℕ) (f : ℕ → V3 K) : V3.sumTo n f = ∑ i ∈ range n, f i := by
  induction n with
  | zero => rfl
  | succ n ih => rw [Finset.sum_range_succ, ← ih]; rfl

theorem sumTo_reflect {K : Type} [AddCommGroup K] (n : ℕ) (f : ℕ → V3 K) :
    V3.sumTo n (fun k => f (n - 1 - k)) = V3.sumTo n f := by
  rw [sumTo_eq_sum, sumTo_eq_sum, Finset.sum_range_reflect]

theorem sumTo_succ {K : Type} [AddCommGroup K] (n : ℕ) (f : ℕ → V3 K) : V3.sumTo (n + 1) f = V3.sumTo n f + f n := rfl

section ring
variable {K : Type} [CommRing K] (c d : K) (a b : V3 K)
@[simp] theorem zero_smul : smul 0 a = 0 := by ext <;> simp
@[simp] theorem smul_zero : smul c (0 : V3 K) = 0 := by ext <;> simp
@[simp] theorem one_smul : smul 1 a = a := by ext <;> simp
@[simp] theorem neg_one_smul : smul (-1) a = -a := by ext <;> simp
theorem smul_neg : smul c (-a) = -smul c a := by ext <;> simp
theorem smul_add : smul c (a + b) = smul c a + smul c b := by ext <;> simp [mul_add]
theorem smul_sub : smul c (a - b) = smul c a - smul c b := by ext <;> simp [mul_sub]
theorem smul_comm : smul c (smul d a) = smul d (smul c a) := by ext <;> simp [mul_left_comm]
theorem smul_smul : smul c (smul d a) = smul (c * d) a := by ext <;> simp [mul_assoc]
theorem cross_smul_right : cross a (smul c b) = smul c (cross a b) := by ext <;> simp <;> ring
theorem cross_smul_smul : cross (smul c a) (smul d b) = smul (c * d) (cross a b) := by ext <;> simp <;> ring
theorem dot_smul_left : dot (smul c a) b = c * dot a b := by simp only [dot, smul_x, smul_y, smul_z]; ring
theorem dot_smul_right : dot a (smul c b) = c * dot a b := by simp only [dot, smul_x, smul_y, smul_z]; ring
/-- `dot` is linear in its first argument over finite sums -/
theorem dot_sumTo (n : ℕ) (f : ℕ → V3 K) (w : V3 K) : dot (V3.sumTo n f) w = ∑ k ∈ range n, dot (f k) w := by
  simp only [dot, sumTo_x, sumTo_y, sumTo_z, Finset.sum_mul, ← Finset.sum_add_distrib]
theorem cross_comm : cross a b = -cross b a := by ext <;> simp <;> ring
end ring

end V3

/-- the scatter `out[:-1] = g ; out[1:] += h` of vectors seen through linear functionals `φ j` attached to the nodes
(a coordinate, or a coordinate of the moment about node `j`): every conservation statement about scattered loads is this -/
theorem sum_linear_scatter {K : Type} [Semiring K] [Sub K] [Neg K] (m : ℕ) (φ : ℕ → V3 K → K) (hφ : ∀ j, V3.Linear (φ j))
    (g h : ℕ → V3 K) :
    ∑ j ∈ range (m + 1), φ j ((if j < m then g j else 0) + (if 1 ≤ j then h j else 0))
      = ∑ e ∈ range m, (φ e (g e) + φ (e + 1) (h (e + 1))) := by
  simp only [(hφ _).add, apply_ite (φ _), (hφ _).zero, sum_scatter]

section dec
variable {K : Type} [DivisionRing K]
theorem dec_def (a b : ℕ) : (dec a b : K) = (a : K) / (b : K) := rfl
end dec

end OAS
