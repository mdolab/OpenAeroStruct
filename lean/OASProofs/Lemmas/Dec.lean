import OASProofs.Lemmas.Basic
import OASProofs.Lemmas.Real

/-! Facts about the decimal literals `dec num den` over ℝ that several property files need. -/
namespace OAS

theorem dec_pos {a b : ℕ} (ha : 0 < a := by decide) (hb : 0 < b := by decide) : (0 : ℝ) < dec a b :=
  div_pos (Nat.cast_pos.mpr ha) (Nat.cast_pos.mpr hb)

theorem dec_nonneg (a b : ℕ) : (0 : ℝ) ≤ dec a b :=
  div_nonneg (Nat.cast_nonneg a) (Nat.cast_nonneg b)

/-- a float literal `k.0`, which the expression translator prints as `dec (10 k) 10`, is the natural number `k` -/
theorem dec_tenfold (k : ℕ) : (dec (k * 10) 10 : ℝ) = (k : ℝ) := by
  rw [dec_def, Nat.cast_mul]; exact mul_div_cancel_right₀ _ (by norm_num)

theorem dec_10_10 : (dec 10 10 : ℝ) = 1 := (dec_tenfold 1).trans Nat.cast_one
theorem dec_20_10 : (dec 20 10 : ℝ) = ((2 : ℕ) : ℝ) := dec_tenfold 2
theorem dec_1800_10 : (dec 1800 10 : ℝ) = ((180 : ℕ) : ℝ) := dec_tenfold 180

/-- `0.5`, printed as `dec 5 10`, is the model's `dec 1 2` -/
theorem dec_five_tenths : (dec 5 10 : ℝ) = dec 1 2 := by
  simp only [dec_def]; norm_num

/-- `np.sqrt(x)` and `x ** 0.5` are the same function -/
theorem sqrt_eq_rpow_half (x : ℝ) : Real.sqrt x = x ^ (dec 5 10 : ℝ) := by
  rw [Real.sqrt_eq_rpow]; congr 1; simp only [dec_def]; norm_num

end OAS
