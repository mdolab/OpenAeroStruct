import OASProofs.Lemmas.Kernel
import OASProofs.Lemmas.Index

/-!
  The assembled vortex-lattice system of `OASModel/VLM.lean`.

  * In terms of the velocity induced by a circulation distribution: a row of the linear system is `(induced velocity at the
    collocation point) · normal`, the force-point velocity is `onset + induced velocity at the force point`.
  * `Renum`: a second surface list that holds the same panels in another numbering, each possibly replaced by its image under a map
    of surfaces.  `Renum.system` is the one argument behind every statement of the form "the transformed configuration has the
    transformed solution": if positions are mapped by `A`, velocities by its orthogonal linear part `R`, then matrix and right-hand
    side are the same, solutions correspond and panel forces are mapped by `R`.  Rotations, translations, the mirror image and
    permutations of the surface list are instances (`Lemmas/Rotation.lean`, `Lemmas/Perm.lean`, `Props/C07System.lean`).
-/
set_option linter.unusedSectionVars false
set_option linter.unusedSimpArgs false
namespace OAS
namespace VLM
open Finset

/-! ### where a global panel index lives -/

theorem locate_isSome_iff (l : List (Surf ℝ)) (m : ℕ) : (locate l m).isSome ↔ m < totalPanels l := by
  induction l generalizing m with
  | nil => simp [locate, totalPanels]
  | cons s rest ih =>
    simp only [locate, totalPanels, List.map_cons, List.sum_cons]
    split_ifs with h
    · simp; omega
    · rw [ih]; simp only [totalPanels]; omega

/-- the surface is a member of the list, the chordwise index `i ≥ 1` leaves room for the row in front, the spanwise index is in
range -/
theorem locate_spec (l : List (Surf ℝ)) (m : ℕ) (s : Surf ℝ) (i j : ℕ) (hl : locate l m = some (s, i, j)) :
    s ∈ l ∧ j < s.ny - 1 ∧ (1 ≤ i → s.ny - 1 ≤ m) := by
  induction l generalizing m with
  | nil => simp [locate] at hl
  | cons t rest ih =>
    simp only [locate] at hl
    split_ifs at hl with h
    · simp only [Option.some.injEq, Prod.mk.injEq] at hl
      obtain ⟨rfl, rfl, rfl⟩ := hl
      have hb : 0 < t.ny - 1 := Nat.pos_of_ne_zero fun h0 => by simp [Surf.npanels, h0] at h
      exact ⟨List.mem_cons_self, Nat.mod_lt m hb, fun hi => Nat.le_of_not_lt fun hc => by
        rw [Nat.div_eq_of_lt hc] at hi; omega⟩
    · obtain ⟨h1, h2, h3⟩ := ih _ hl
      exact ⟨List.mem_cons_of_mem _ h1, h2, fun hi => by have := h3 hi; omega⟩

theorem locate_mem (l : List (Surf ℝ)) (m : ℕ) (s : Surf ℝ) (i j : ℕ) (hl : locate l m = some (s, i, j)) : s ∈ l :=
  (locate_spec l m s i j hl).1

theorem locate_col_lt (l : List (Surf ℝ)) (m : ℕ) (s : Surf ℝ) (i j : ℕ) (hl : locate l m = some (s, i, j)) : j < s.ny - 1 :=
  (locate_spec l m s i j hl).2.1

/-- a panel in chordwise row `i ≥ 1` has a global index of at least one row length -/
theorem locate_row_pos (l : List (Surf ℝ)) (m : ℕ) (s : Surf ℝ) (i j : ℕ) (hl : locate l m = some (s, i, j))
    (hi : 1 ≤ i) : s.ny - 1 ≤ m :=
  (locate_spec l m s i j hl).2.2 hi

theorem locate_single (t : Surf ℝ) (i j : ℕ) (hi : i < t.nx - 1) (hj : j < t.ny - 1) :
    locate [t] (i * (t.ny - 1) + j) = some (t, i, j) := by
  have hlt : i * (t.ny - 1) + j < t.npanels := idx_lt hi hj
  simp only [locate, hlt, if_true, idx_div i hj, idx_mod i hj]

theorem totalPanels_single (t : Surf ℝ) : totalPanels [t] = (t.nx - 1) * (t.ny - 1) := by
  simp [totalPanels, Surf.npanels]

theorem div_mod_of_lt (i J b : ℕ) (hJ : J < b) : (i * b + J) / b = i ∧ (i * b + J) % b = J := ⟨idx_div i hJ, idx_mod i hJ⟩

/-- mapping every surface to one of the same size does not move the panels -/
theorem locate_map (g : Surf ℝ → Surf ℝ) (hnx : ∀ s, (g s).nx = s.nx) (hny : ∀ s, (g s).ny = s.ny)
    (surfs : List (Surf ℝ)) (m : ℕ) :
    locate (surfs.map g) m = (locate surfs m).map (fun t => (g t.1, t.2.1, t.2.2)) := by
  induction surfs generalizing m with
  | nil => rfl
  | cons s rest ih =>
    have hp : (g s).npanels = s.npanels := by simp [Surf.npanels, hnx, hny]
    simp only [List.map_cons, locate, hp, hny]
    split_ifs
    · rfl
    · exact ih _

/-! ### the system in terms of the induced velocity -/

/-- velocity induced at `p` by the circulations `gamma` of all panels of the surface list -/
noncomputable def indVel (l : List (Surf ℝ)) (f : Flow ℝ) (gamma : ℕ → ℝ) (p : V3 ℝ) : V3 ℝ :=
  V3.sumTo (totalPanels l) (fun n => V3.smul (gamma n) (influence l f p n))

theorem forcePtVelocity_eq (l : List (Surf ℝ)) (f : Flow ℝ) (gamma : ℕ → ℝ) (m : ℕ) (s : Surf ℝ) (i j : ℕ)
    (hl : locate l m = some (s, i, j)) :
    forcePtVelocity l f gamma m = onset f (collPt s i j) + indVel l f gamma (forcePt s i j) := by
  simp only [forcePtVelocity, hl, indVel]

/-- **a row of the linear system applied to `gamma` is the normal component of the induced velocity** -/
theorem row_eq (l : List (Surf ℝ)) (f : Flow ℝ) (gamma : ℕ → ℝ) (m : ℕ) (s : Surf ℝ) (i j : ℕ)
    (hl : locate l m = some (s, i, j)) :
    ∑ n ∈ range (totalPanels l), aic l f m n * gamma n = V3.dot (indVel l f gamma (collPt s i j)) (normal s i j) := by
  simp only [aic, hl, indVel, V3.dot_sumTo_smul_left]

/-- **the induction of a single surface as a double sum over its chordwise and spanwise panel indices** -/
theorem indVel_single (t : Surf ℝ) (f : Flow ℝ) (gamma : ℕ → ℝ) (p : V3 ℝ) :
    indVel [t] f gamma p = V3.sumTo (t.nx - 1) (fun i => V3.sumTo (t.ny - 1) (fun j =>
      V3.smul (gamma (i * (t.ny - 1) + j)) (velMtx t f.alpha (vortexMesh t (deg2rad f.alpha) f.h) p i j))) := by
  simp only [indVel, totalPanels_single, V3.sumTo_eq_sum, sum_range_mul]
  refine Finset.sum_congr rfl fun i hi => Finset.sum_congr rfl fun j hj => ?_
  simp only [influence, locate_single t i j (mem_range.mp hi) (mem_range.mp hj)]

/-- only the circulations of the panels that exist enter a panel force -/
theorem panelForce_congr (l : List (Surf ℝ)) (f : Flow ℝ) {gamma gamma' : ℕ → ℝ}
    (hg : ∀ n, n < totalPanels l → gamma n = gamma' n) (m : ℕ) : panelForce l f gamma m = panelForce l f gamma' m := by
  unfold panelForce horseshoe forcePtVelocity
  cases hl : locate l m with
  | none => rfl
  | some t =>
    obtain ⟨s, i, j⟩ := t
    have hm : m < totalPanels l := (locate_isSome_iff l m).1 (by rw [hl]; rfl)
    have hsum : ∀ p, V3.sumTo (totalPanels l) (fun n => V3.smul (gamma n) (influence l f p n))
        = V3.sumTo (totalPanels l) fun n => V3.smul (gamma' n) (influence l f p n) :=
      fun p => V3.sumTo_ext _ _ _ fun n hn => by rw [hg n hn]
    simp only [hg m hm, hg (m - (s.ny - 1)) (by omega), hsum]

/-- onset velocity at the collocation point of global panel `k` -/
noncomputable def onsetAt (surfs : List (Surf ℝ)) (f : Flow ℝ) (k : ℕ) : V3 ℝ :=
  match locate surfs k with
  | none => 0
  | some (s, i, j) => onset f (collPt s i j)

/-- `panelForce` is `panelForceWith` the onset velocities at the collocation points -/
theorem panelForce_eq_with (surfs : List (Surf ℝ)) (f : Flow ℝ) (gamma : ℕ → ℝ) (m : ℕ) :
    panelForce surfs f gamma m = panelForceWith surfs f (onsetAt surfs f) gamma m := by
  unfold panelForce panelForceWith forcePtVelocity onsetAt
  cases hl : locate surfs m with
  | none => rfl
  | some t => obtain ⟨s, i, j⟩ := t; simp only [hl]

/-! ### the same panels in another numbering -/

/-- Panel `m` of `l` is panel `σ m` of `l'` (`τ` undoes `σ`); there it belongs to the surface `g s` of the same row length, in the
same chordwise row, at the spanwise position `ψ s j`; chordwise neighbours stay one row length apart. -/
structure Renum (l l' : List (Surf ℝ)) (g : Surf ℝ → Surf ℝ) (ψ : Surf ℝ → ℕ → ℕ) (σ τ : ℕ → ℕ) : Prop where
  left : ∀ m, τ (σ m) = m
  right : ∀ m, σ (τ m) = m
  loc : ∀ m, locate l' (σ m) = (locate l m).map fun t => (g t.1, t.2.1, ψ t.1 t.2.2)
  ny : ∀ s ∈ l, (g s).ny = s.ny
  row : ∀ m s i j, locate l m = some (s, i, j) → 1 ≤ i → σ (m - (s.ny - 1)) = σ m - (s.ny - 1)

/-- surfaces replaced by surfaces of the same size, numbering unchanged -/
theorem Renum.map (g : Surf ℝ → Surf ℝ) (hnx : ∀ s, (g s).nx = s.nx) (hny : ∀ s, (g s).ny = s.ny) (l : List (Surf ℝ)) :
    Renum l (l.map g) g (fun _ j => j) id id :=
  ⟨fun _ => rfl, fun _ => rfl, locate_map g hnx hny l, fun s _ => hny s, fun _ _ _ _ _ _ => rfl⟩

section renum
variable {l l' : List (Surf ℝ)} {g : Surf ℝ → Surf ℝ} {ψ : Surf ℝ → ℕ → ℕ} {σ τ : ℕ → ℕ} (h : Renum l l' g ψ σ τ)
include h

theorem Renum.lt_iff' (m : ℕ) : σ m < totalPanels l' ↔ m < totalPanels l := by
  rw [← locate_isSome_iff, ← locate_isSome_iff, h.loc, Option.isSome_map]

/-- both lists have as many panels (`σ` and `τ` are injections between the two ranges) -/
theorem Renum.total : totalPanels l' = totalPanels l := by
  have hσ : Set.InjOn σ (range (totalPanels l) : Set ℕ) := fun x _ y _ hxy => by simpa [h.left] using congrArg τ hxy
  have hτ : Set.InjOn τ (range (totalPanels l') : Set ℕ) := fun x _ y _ hxy => by simpa [h.right] using congrArg σ hxy
  have h1 := Finset.card_le_card_of_injOn σ (fun x hx => mem_range.2 ((h.lt_iff' x).2 (mem_range.1 hx))) hσ
  have h2 := Finset.card_le_card_of_injOn τ
    (fun x hx => mem_range.2 ((h.lt_iff' (τ x)).1 (by rw [h.right]; exact mem_range.1 hx))) hτ
  simp only [card_range] at h1 h2
  omega

theorem Renum.lt_iff (m : ℕ) : σ m < totalPanels l ↔ m < totalPanels l := by
  have := h.lt_iff' m
  rwa [h.total] at this

/-- sums over all unknowns may be taken in either numbering -/
theorem Renum.sum_eq {M : Type} [AddCommMonoid M] (F : ℕ → M) :
    ∑ n ∈ range (totalPanels l), F (σ n) = ∑ n ∈ range (totalPanels l), F n :=
  Finset.sum_nbij' σ τ (fun a ha => mem_range.2 ((h.lt_iff a).2 (mem_range.1 ha)))
    (fun a ha => mem_range.2 ((h.lt_iff (τ a)).1 (by rw [h.right]; exact mem_range.1 ha)))
    (fun a _ => h.left a) (fun a _ => h.right a) (fun _ _ => rfl)

theorem Renum.horseshoe_eq (gamma : ℕ → ℝ) (m : ℕ) :
    horseshoe l' (fun k => gamma (τ k)) (σ m) = horseshoe l gamma m := by
  simp only [horseshoe, h.loc]
  cases hl : locate l m with
  | none => rfl
  | some t =>
    obtain ⟨s, i, j⟩ := t
    simp only [Option.map_some, h.left, h.ny s (locate_mem l m s i j hl)]
    split_ifs with hi
    · rw [← h.row m s i j hl hi, h.left]
    · rfl

/-! **The transformed configuration has the transformed solution.**  Positions are mapped by `A`, velocities by the orthogonal map
`R` (the linear part of `A`), the bound vortices by `ε R` where `ε` is the determinant of `R`, so that forces, being cross products of
the two, are mapped by `R`. -/

variable {f f' : Flow ℝ} {R A : V3 ℝ → V3 ℝ}
  (hcoll : ∀ m s i j, locate l m = some (s, i, j) → collPt (g s) i (ψ s j) = A (collPt s i j))
  (hnormal : ∀ m s i j, locate l m = some (s, i, j) → normal (g s) i (ψ s j) = R (normal s i j))
  (hdot : ∀ a b, V3.dot (R a) (R b) = V3.dot a b)
include hcoll

omit hcoll in
/-- panel forces for given onset velocities are mapped by `R` -/
theorem Renum.panelForceWith_eq {ε : ℝ} (hR : IsOrtho ε R) (hε : ε * ε = 1) (hrho : f'.rho = f.rho)
    (hforce : ∀ m s i j, locate l m = some (s, i, j) → forcePt (g s) i (ψ s j) = A (forcePt s i j))
    (hbound : ∀ m s i j, locate l m = some (s, i, j) → boundVec (g s) i (ψ s j) = V3.smul ε (R (boundVec s i j)))
    (hinf : ∀ p n, influence l' f' (A p) (σ n) = R (influence l f p n))
    {on on' : ℕ → V3 ℝ} (hon : ∀ m, on' (σ m) = R (on m)) (gamma : ℕ → ℝ) (m : ℕ) :
    panelForceWith l' f' on' (fun k => gamma (τ k)) (σ m) = R (panelForceWith l f on gamma m) := by
  simp only [panelForceWith, h.horseshoe_eq, h.loc, h.total]
  cases hl : locate l m with
  | none => exact hR.zero.symm
  | some t =>
    obtain ⟨s, i, j⟩ := t
    simp only [Option.map_some, hforce m s i j hl, hbound m s i j hl, hon, hrho]
    rw [V3.sumTo_eq_sum, ← h.sum_eq (M := V3 ℝ) fun n => V3.smul (gamma (τ n)) (influence l' f' (A (forcePt s i j)) n)]
    simp only [h.left, hinf, ← hR.smul, ← V3.sumTo_eq_sum, hR.sum, ← hR.add, V3.cross_smul_right, hR.cross,
      V3.smul_smul, hε, V3.one_smul]

/-- the onset velocities at the collocation points are mapped by `R` when the onset flows correspond -/
theorem Renum.onsetAt_eq (hR0 : R 0 = 0) (hon : ∀ c, onset f' (A c) = R (onset f c)) (m : ℕ) :
    onsetAt l' f' (σ m) = R (onsetAt l f m) := by
  simp only [onsetAt, h.loc]
  cases hl : locate l m with
  | none => exact hR0.symm
  | some t => obtain ⟨s, i, j⟩ := t; simp only [Option.map_some, hcoll m s i j hl, hon]

include hnormal hdot

/-- the two systems have the same matrix … -/
theorem Renum.aic_eq (hinf : ∀ p n, influence l' f' (A p) (σ n) = R (influence l f p n)) (m n : ℕ) :
    aic l' f' (σ m) (σ n) = aic l f m n := by
  simp only [aic, h.loc]
  cases hl : locate l m with
  | none => rfl
  | some t =>
    obtain ⟨s, i, j⟩ := t
    simp only [Option.map_some, hcoll m s i j hl, hnormal m s i j hl, hinf, hdot]

/-- … the same right-hand side when the onset flows correspond … -/
theorem Renum.rhs_eq (hon : ∀ c, onset f' (A c) = R (onset f c)) (m : ℕ) : rhs l' f' (σ m) = rhs l f m := by
  simp only [rhs, h.loc]
  cases hl : locate l m with
  | none => rfl
  | some t =>
    obtain ⟨s, i, j⟩ := t
    simp only [Option.map_some, hcoll m s i j hl, hnormal m s i j hl, hon, hdot]

omit hcoll hnormal hdot

/-- … and circulations that solve one system solve the other in the other numbering -/
theorem Renum.solves (haic : ∀ m n, aic l' f' (σ m) (σ n) = aic l f m n)
    (hrhs : ∀ m, rhs l' f' (σ m) = rhs l f m) (gamma : ℕ → ℝ)
    (hs : ∀ m, m < totalPanels l → ∑ n ∈ range (totalPanels l), aic l f m n * gamma n = rhs l f m) (m : ℕ)
    (hm : m < totalPanels l') :
    ∑ n ∈ range (totalPanels l'), aic l' f' m n * gamma (τ n) = rhs l' f' m := by
  rw [h.total] at hm ⊢
  have e := hs (τ m) ((h.lt_iff (τ m)).1 (by rwa [h.right]))
  rw [← hrhs, h.right] at e
  rw [← e, ← h.sum_eq fun n => aic l' f' m n * gamma (τ n)]
  refine Finset.sum_congr rfl fun n _ => ?_
  rw [h.left, ← haic, h.right]

end renum

end VLM
end OAS
