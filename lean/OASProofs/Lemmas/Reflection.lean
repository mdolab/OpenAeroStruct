import OASProofs.Lemmas.Kernel

/-!
  The reflection `reflN n` across the plane through the origin with unit normal `n`: an orthogonal map of determinant `−1` (so
  lattices reflected *without* reversing their node order induce `−R` of the original velocity, `latticeVel_ortho`), which fixes the
  plane, reverses the normal component and is an involution.  Used for the method of images of the ground effect.
-/
namespace OAS

/-- the reflection across the plane through the origin with normal `n` -/
noncomputable def reflN (n : V3 ℝ) (v : V3 ℝ) : V3 ℝ := v - V3.smul (2 * V3.dot v n) n

theorem reflN_isOrtho (n : V3 ℝ) (hn : V3.dot n n = 1) : IsOrtho (-1) (reflN n) := by
  simp only [V3.dot] at hn
  refine ⟨fun a b => ?_, fun c a => ?_, fun a b => ?_, fun a b => ?_⟩
  · ext <;> simp [reflN, V3.dot] <;> ring
  · ext <;> simp [reflN, V3.dot] <;> ring
  · simp only [reflN, V3.dot, V3.sub_x, V3.sub_y, V3.sub_z, V3.smul_x, V3.smul_y, V3.smul_z]
    linear_combination (4 * (a.x * n.x + a.y * n.y + a.z * n.z) * (b.x * n.x + b.y * n.y + b.z * n.z)) * hn
  · ext <;> simp only [reflN, V3.dot, V3.cross_x, V3.cross_y, V3.cross_z, V3.sub_x, V3.sub_y, V3.sub_z, V3.smul_x, V3.smul_y,
      V3.smul_z]
    · linear_combination (-2 * (a.y * b.z - a.z * b.y)) * hn
    · linear_combination (2 * (a.x * b.z - a.z * b.x)) * hn
    · linear_combination (-2 * (a.x * b.y - a.y * b.x)) * hn

theorem reflN_of_dot_eq_zero {n v : V3 ℝ} (h : V3.dot v n = 0) : reflN n v = v := by
  rw [reflN, h]; ext <;> simp

section
variable {n : V3 ℝ} (hn : V3.dot n n = 1)
include hn

theorem reflN_dot_normal (v : V3 ℝ) : V3.dot (reflN n v) n = -V3.dot v n := by
  simp only [reflN, V3.dot, V3.sub_x, V3.sub_y, V3.sub_z, V3.smul_x, V3.smul_y, V3.smul_z] at hn ⊢
  linear_combination (-2 * (v.x * n.x + v.y * n.y + v.z * n.z)) * hn

theorem reflN_reflN (v : V3 ℝ) : reflN n (reflN n v) = v := by
  rw [reflN, reflN_dot_normal hn]; ext <;> simp [reflN]

end

/-- the reflection about a point `q` of the plane, written as linear part plus translation -/
theorem IsOrtho.about_point {σ : ℝ} {R : V3 ℝ → V3 ℝ} (h : IsOrtho σ R) (m q : V3 ℝ) : R (m - q) + q = R m + (q - R q) := by
  rw [h.sub]; abel

end OAS
