import OASProofs.Lemmas.Basic
import OASProofs.Lemmas.Norm
import OASProofs.Lemmas.Dec
import OASProofs.Lemmas.Index
import OASProofs.Lemmas.Rotation
import OASProofs.Lemmas.Reflection
import OASProofs.Lemmas.Perm
import OASProofs.Props.C11
import OASProofs.Props.C16
import OASProofs.Props.C15
import OASProofs.Props.C15Wingbox
import OASProofs.Props.C17
import OASProofs.Props.C18
import OASProofs.Props.C17Atmos
import OASProofs.Props.C13
import OASProofs.Props.C04
import OASProofs.Props.C04System
import OASProofs.Props.C05
import OASProofs.Props.C06
import OASProofs.Props.C07
import OASProofs.Props.C07System
import OASProofs.Props.C08
import OASProofs.Props.C08System
import OASProofs.Props.C09
import OASProofs.Props.C19
import OASProofs.Props.C03
import OASProofs.Props.C10
import OASProofs.Props.C02
import OASProofs.Props.C12
import OASProofs.Props.C01
import OASProofs.Props.C01AD
import OASProofs.Props.C01AD2
import OASProofs.Props.C01AD3
import OASProofs.Props.C01AD4
import OASProofs.Props.C01AD5
import OASProofs.Props.C01AD6
import OASProofs.Props.C14
import OASProofs.Props.C20
import OASProofs.Props.C17Formulas
import OASProofs.Props.C15Formulas
import OASProofs.Props.C18Formulas
import OASProofs.Props.C16Formulas
import OASProofs.Props.C14Unify
import OASProofs.Props.C04Right
import OASProofs.Props.C09Formulas
import OASProofs.Props.C11Coupled
import OASProofs.Props.C05Glue
import OASProofs.Props.C14UnifyComp
import OASProofs.Props.C01AD7
import OASProofs.Props.C15Section
import OASProofs.Props.C15SectionFormulas
import OASProofs.Props.C12Convergence
import OASProofs.Props.C01Patterns
import OASProofs.Props.C04List
import OASProofs.Props.C11Formulas
import OASProofs.Props.C01AD8
import OASProofs.Props.C10Pattern
import OASProofs.Props.C14Sections
import OASProofs.Props.MoreFormulas
import OASProofs.Props.C17Akima
import OASProofs.Props.C17AtmosTable
